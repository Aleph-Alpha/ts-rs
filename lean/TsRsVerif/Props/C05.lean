import TsRsVerif.Lemmas.HistoryWorld
/-!
# C05 — several types in one file: order-independent, idempotent, lossless merge

`Merge.merge` is `render ∘ (import map + insertion loop) ∘ parse`, as the Rust function is. `C05_merge_text` is the bridge from the TEXT
of a file to its blocks: for a header without a blank line and well-formed blocks (`BlockOK`: no blank line inside, no line break at the
ends, the name is read back from the text), `merge(file, new)` is the import block followed by the blocks with the new one inserted in
name order; `C05_merge_text_full` discharges the parsing of the header as well (`parse_render_line`: an import line is read back, for any
path and any list of names). `C05_history_canonical` closes the loop over whole histories: any sequence of exports of well-formed texts
with distinct names into one path of a process that has not written it yet succeeds step by step and leaves exactly
`fileText (canonSt exports)` there — the seek-and-write without truncation leaves nothing of the old file behind because import block and
declaration list only grow (`Lemmas/ByteLen.lean`) — and `canonSt` does not depend on the order (`C05_canon_order_independent`: reading an
import line is one insertion, and insertions commute, `Lemmas/ImportLemmas.lean`). `C05_oracle_is_canonical`: the `canonFile` oracle the
check computes from the real generated texts is that same text. The two open findings of C05 are exactly the two ways to violate
`BlockOK`; proving `parse_render_line` exposed a third defect (a type called `from`, fixed in cc8d787).
-/
namespace TsRs
open Text Merge Export

/-- **the Rust insertion loop is insertion into the name-sorted list** (any list, any texts):
the loop of export.rs:259-290 run with `inserted = false` yields exactly the declarations of
`insertByName`, provided the new name is not yet in the file (the registry guarantees that). -/
theorem C05_loop_is_sorted_insert (n d : Str) (ds : List (Str × Str)) (hn : ∀ x ∈ ds, x.1 ≠ n) :
    insertLoop n d false ds = (insertByName n d ds).map (·.2) :=
  loop_is_sorted_insert n d ds hn

/-- **the text-level merge is sorted insertion into the blocks of the file** (any number of blocks, any texts) -/
theorem C05_merge_text (hdrO hdrN : Str) (blocks : List (Str × Str)) (n d : Str) (parsed : List (Str × List Str))
    (hO : hasNN hdrO = false ∧ endsNl hdrO = false) (hN : hasNN hdrN = false ∧ endsNl hdrN = false)
    (hne : blocks ≠ []) (hb : ∀ b ∈ blocks, BlockOK b.1 b.2) (hnew : BlockOK n d) (hfresh : ∀ x ∈ blocks, x.1 ≠ n)
    (himp : ((lines hdrO).drop 1 ++ (lines hdrN).drop 1).mapM parseImportLine = some parsed) :
    merge (hdrO ++ '\n' :: '\n' :: declsText (blocks.map (·.2))) (hdrN ++ '\n' :: '\n' :: (d ++ ['\n']))
      = .ok (renderImports (parsed.foldl addLine []) ++ renderDecls ((insertByName n d blocks).map (·.2))) := by
  rw [merge_text hdrO hdrN blocks n d parsed (noMatch_nn _ hO.1 hO.2) (noMatch_nn _ hN.1 hN.2) hne hb hnew himp,
    C05_loop_is_sorted_insert n d blocks hfresh]

/-- **the whole text-level merge**, with nothing assumed about parsing: a file made of the notice line, import lines
(one per specifier: any path not starting / ending with a quote, any non-empty list of names without `{`, `}`, `,`) and
well-formed blocks, merged with a generated text of the same make, is the union of the import maps followed by the blocks
with the new one inserted in name order. -/
theorem C05_merge_text_full (note : Str) (impO impN : List (Str × List Str)) (blocks : List (Str × Str)) (n d : Str)
    (hnote : LineOK note)
    (hO : ∀ x ∈ impO, PathOK x.1 ∧ x.2 ≠ [] ∧ ∀ t ∈ x.2, NameOK t) (hN : ∀ x ∈ impN, PathOK x.1 ∧ x.2 ≠ [] ∧ ∀ t ∈ x.2, NameOK t)
    (hlO : ∀ x ∈ impO, LineOK (renderLine x.1 x.2)) (hlN : ∀ x ∈ impN, LineOK (renderLine x.1 x.2))
    (hne : blocks ≠ []) (hb : ∀ b ∈ blocks, BlockOK b.1 b.2) (hnew : BlockOK n d) (hfresh : ∀ x ∈ blocks, x.1 ≠ n) :
    merge (header note (impO.map fun x => renderLine x.1 x.2) ++ '\n' :: '\n' :: declsText (blocks.map (·.2)))
          (header note (impN.map fun x => renderLine x.1 x.2) ++ '\n' :: '\n' :: (d ++ ['\n']))
      = .ok (renderImports ((impO ++ impN).foldl addLine []) ++ renderDecls ((insertByName n d blocks).map (·.2))) :=
  merge_text_full note impO impN blocks n d hnote hO hN hlO hlN hne hb hnew hfresh

/-- … and the merged text has again the shape the theorem asks of its input (so it applies to every later merge) -/
theorem C05_merged_shape (ds : List Str) : renderDecls ds = (ds.map fun d => ['\n'] ++ d ++ ['\n']).flatten := rfl

/-- **order independence**: exporting the same set of (distinctly named) declarations in ANY two
orders yields the same list of blocks — for every number of types and every text. -/
theorem C05_order_independent (g₁ g₂ : List (Str × Str)) (hp : g₁.Perm g₂)
    (hnd : (g₁.map (·.1)).Nodup) : insertAll g₁ = insertAll g₂ := insertAll_perm hp hnd

/-- **lossless, exactly once, in name order**: the block list is a permutation of the exported
declarations (every one intact, none twice, none lost) and is strictly sorted by name. -/
theorem C05_lossless_sorted (g : List (Str × Str)) (hnd : (g.map (·.1)).Nodup) :
    (insertAll g).Perm g ∧ SortedN (insertAll g) := insertAll_perm_sorted g hnd

/-- **idempotence**: exporting a type whose name the registry already lists for that path changes
neither the file system nor the registry, whatever the text and the world. -/
theorem C05_idempotent (w : World) (path name text : Str) (names : List Str)
    (hp : w.poisoned = false) (hreg : regGet w.reg (regKey path) = some names) (hin : name ∈ names) :
    exportAndMerge w path name text = (w, .ok) := by
  simp [exportAndMerge, hp, hreg, hin]

/-- **first touch truncates**: for a path this process has not written yet, the file afterwards is
exactly the generated text — stale content of a previous run cannot leak. -/
theorem C05_first_touch (w : World) (path name text : Str) (fs' : Fs)
    (hp : w.poisoned = false) (hreg : regGet w.reg (regKey path) = none)
    (hc : w.fs.fileCreate path text = some fs') :
    exportAndMerge w path name text =
      ({ w with fs := fs', reg := regInsert w.reg (regKey path) name }, .ok) := by
  simp [exportAndMerge, hp, hreg, hc]

/-- a failing step leaves the world untouched -/
theorem C05_error_untouched (w w' : World) (path name text : Str) (e : ExportErr)
    (h : exportAndMerge w path name text = (w', .err e)) : w' = w :=
  exportAndMerge_err w w' path name text e h

/-! ## non-vacuity -/
example : insertAll [("B".toList, "export type B = 1;".toList), ("A".toList, "export type A = 2;".toList),
      ("Ab".toList, "x".toList)]
    = [("A".toList, "export type A = 2;".toList), ("Ab".toList, "x".toList), ("B".toList, "export type B = 1;".toList)] := by
  lit_chars; decide +kernel

/-- the whole string-level `merge` on a concrete pair: imports united and sorted, block inserted in name order -/
example : merge
    (NOTE ++ "import type { Dep } from \"./Dep\";\n\nexport type B = Dep;\n".toList)
    (NOTE ++ "import type { Other, Dep } from \"./Dep\";\n\n/**\n * doc\n */\nexport type A = Other;\n".toList)
    = .ok ("import type { Dep, Other } from \"./Dep\";\n\n/**\n * doc\n */\nexport type A = Other;\n\nexport type B = Dep;\n".toList) := by
  rw [NOTE, Gen.NOTE]; lit_chars; decide +kernel

/-- **refinement to the abstract content, for whole histories** (any number of exports, any well-formed texts): in a
process that has not written `path` yet, exporting `g :: gs` (distinct identifiers, distinct declared names — a generic type's
declared name is `Name<T, ..>`, its identifier `Name`) one after the other returns `Ok` every time
and ends with: the file system is the initial one with exactly `fileText (canonSt (g :: gs))` at the file's location
(nothing else touched, nothing of intermediate contents left behind), the registry lists exactly the exported names, the
lock is not poisoned. -/
theorem C05_history_canonical (w : World) (path : Str) (g : GenT) (gs : List GenT)
    (hok : ∀ x ∈ g :: gs, GenOK x) (hnd : ((g :: gs).map (·.name)).Nodup) (hndI : ((g :: gs).map (·.ident)).Nodup)
    (hp : w.poisoned = false) (hreg : regGet w.reg (regKey path) = none)
    (hc : (w.fs.fileCreate path (genText g)).isSome) :
    ∃ w' loc, runAll path w (g :: gs) = (w', true) ∧ w'.poisoned = false ∧ w.fs.resolve path = some loc ∧
      w'.fs = w.fs.set loc (.file (fileText (canonSt (g :: gs)))) ∧
      ∃ names, regGet w'.reg (regKey path) = some names ∧ ∀ n, n ∈ names ↔ n ∈ (g :: gs).map (·.ident) :=
  history_canonical w path (g :: gs) (by simp) ⟨hok, hnd, hndI⟩ hp hreg ⟨_, hc⟩

/-- **lossless**: the canonical content holds the block of every export, each exactly once, in name order -/
theorem C05_canon_lossless (gens : List GenT) (hnd : (gens.map (·.name)).Nodup) :
    ((canonSt gens).blocks).Perm (gens.map fun g => (g.name, g.decl)) ∧ SortedN (canonSt gens).blocks := canonSt_lossless gens hnd

/-- **order independence of the abstract content** — import map AND blocks, for every permutation of the exports -/
theorem C05_canon_order_independent (g₁ g₂ : List GenT) (hp : g₁.Perm g₂) (hnd : (g₁.map (·.name)).Nodup) :
    canonSt g₁ = canonSt g₂ := canonSt_perm g₁ g₂ hp hnd

/-- the import map is a function of the SET of import lines: invariant under permutation, and re-reading an already
merged block changes nothing -/
theorem C05_imports_perm (ls₁ ls₂ : List (Str × List Str)) (h : ls₁.Perm ls₂) :
    ls₁.foldl addLine [] = ls₂.foldl addLine [] := foldl_addLine_perm h []

/-- **the oracle is the theorem's canonical file**: what the check computes from the real generated texts
(`canonFile`, compared with the real file after every history) is `fileText (canonSt ..)` -/
theorem C05_oracle_is_canonical (gens : List GenT) (hne : gens ≠ []) (hok : ∀ x ∈ gens, GenOK x) :
    canonFile (gens.map fun g => (g.name, genText g)) = some (fileText (canonSt gens)) := by
  unfold canonFile
  rw [mapM_genParts gens hok]
  simp only
  rw [fileText_eq _ (canonSt_ok gens hne hok).2.1]
  simp [canonSt, List.foldl_map, List.foldl_flatMap]

/-- seek-and-write leaves nothing behind: the merged text is never shorter than what it overwrites -/
theorem C05_write_leaves_nothing (s : FileSt) (g : GenT) (hs : StOK s) :
    Fs.writeAt (fileText s) (Fs.byteLen NOTE) (renderImports (s.add g).imps ++ renderDecls ((s.add g).blocks.map (·.2)))
      = fileText (s.add g) := write_step s g hs

/-! non-vacuity: two concrete generated texts (one with an import line) satisfy `GenOK`, and a concrete world satisfies the
premises of `C05_history_canonical` -/
def exG1 : GenT := ⟨"Beta".toList, "Beta".toList, [("./Dep".toList, ["Dep".toList, "Other".toList])], "/**\n * doc\n */\nexport type Beta = { d: Dep, o: Other, };".toList⟩
def exG2 : GenT := ⟨"Alpha".toList, "Alpha<T>".toList, [], "export type Alpha<T> = { a: T, };".toList⟩
def exW : World := { fs := { nodes := [(["w".toList], .dir), (["w".toList, "out".toList], .dir)], cwd := ["w".toList] }, reg := [] }

example : GenOK exG1 := by unfold exG1; lit_chars; decide +kernel
example : GenOK exG2 := by unfold exG2; lit_chars; decide +kernel
example : exW.poisoned = false ∧ regGet exW.reg (regKey "out/shared.ts".toList) = none ∧
    (exW.fs.fileCreate "out/shared.ts".toList (genText exG1)).isSome = true := by
  unfold exW exG1; lit_chars; decide +kernel
#guard (runAll "out/shared.ts".toList exW [exG1, exG2]).2 &&
  (((runAll "out/shared.ts".toList exW [exG1, exG2]).1.fs.openRead "out/shared.ts".toList).map (·.2) == some (fileText (canonSt [exG2, exG1])))

/-! ## why `BlockOK` is needed: counter-examples of the unchanged tree (known findings) -/

/-- a blank line inside a block splits it: the merged body has THREE declarations for two types -/
theorem C05_cex_blank_line :
    merge (NOTE ++ "\n/** a\n\n b */\nexport type M = 1;\n".toList) (NOTE ++ "\nexport type Z = 2;\n".toList)
      = .ok ("\n/** a\n\n b */\nexport type M = 1;\n\nexport type Z = 2;\n".toList) ∧
    merge (NOTE ++ "\n/** a\n\n b */\nexport type M = 1;\n".toList) (NOTE ++ "\nexport type A = 2;\n".toList)
      = .ok ("\n/** a\n\nexport type A = 2;\n\n b */\nexport type M = 1;\n".toList) := by
  rw [NOTE, Gen.NOTE]; lit_chars; decide +kernel

/-- `export type` inside a field doc: the name of the block is mis-read (`Zzz` instead of `B`) -/
theorem C05_cex_name_misread :
    declName "export type B = { \n/**\n * like export type Zzz = 1\n */\na: number, };".toList = some "Zzz".toList := by
  lit_chars; decide +kernel

/-! ## non-vacuity of the text bridge: a real-looking file and a new declaration -/
example : BlockOK "Alpha".toList "/**\n * doc\n */\nexport type Alpha = { a: number, };".toList := by
  lit_chars; unfold BlockOK; decide +kernel
example : merge ("// note\nimport type { X } from \"./X\";".toList ++ '\n' :: '\n' :: declsText ["export type Alpha = X;".toList, "export type Gamma = null;".toList])
    ("// note".toList ++ '\n' :: '\n' :: ("export type Beta = 1;".toList ++ ['\n']))
    = .ok "import type { X } from \"./X\";\n\nexport type Alpha = X;\n\nexport type Beta = 1;\n\nexport type Gamma = null;\n".toList := by
  lit_chars; decide +kernel

end TsRs
