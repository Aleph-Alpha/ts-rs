import TsRsVerif.Model.Deps
import TsRsVerif.Lemmas.WalkFiles
/-!
# C11 — an export writes exactly the root's and its dependencies' files

`exportRec` = `export_recursive` (depth-first walk with the `seen` set), `exportInto` = `export_into`.
A type's file is written exactly when the walk adds the type to `seen` (that is where `export_into`
is called), so "which files are written" is "which types are visited".
-/
namespace TsRs
open Export Fs

/-- **the walk visits exactly the exportable types reachable from the root** — for every
dependency graph (cycles, shared dependencies, any size), whenever the export succeeds. -/
theorem C11_visits_exactly_reachable (u : Universe) (fuel : Nat) (w w' : World) (dir : Str) (i : Nat)
    (seen' : List Nat) (h : exportRec u fuel w [] dir i = some (w', seen', .ok)) :
    ∀ j, j ∈ seen' ↔ Reach u i j :=
  exportRec_reach u fuel w w' dir i seen' h

/-- nothing is visited twice and nothing already seen is exported again -/
theorem C11_seen_is_skipped (u : Universe) (fuel : Nat) (w : World) (seen : List Nat) (dir : Str) (i : Nat)
    (h : i ∈ seen) : exportRec u (fuel + 1) w seen dir i = some (w, seen, .ok) := by
  simp [exportRec, h]

/-- **one export step changes at most one file location** (and creates directories): every other
regular file is exactly what it was. -/
theorem C11_step_touches_one_file (w w' : World) (path name text : Str)
    (h : exportAndMerge w path name text = (w', .ok)) :
    ∃ l, ∀ l' c, l' ≠ l → (w.fs.lookup l' = some (.file c) ↔ w'.fs.lookup l' = some (.file c)) := by
  rcases exportAndMerge_cases w path name text with ⟨h1, _⟩ | h1 | h1 | ⟨h1, _⟩ | ⟨l, c, _, _, h1⟩ <;> rw [h1] at h <;> simp at h
  · subst h; exact ⟨[], fun _ _ _ => Iff.rfl⟩
  · subst h; exact ⟨l, fun l' c' hne => by rw [lookup_set_ne _ _ hne]⟩

/-- the location that does change holds a regular file afterwards (never a directory) -/
theorem C11_step_writes_a_file (w w' : World) (path name text : Str)
    (hreg : regGet w.reg (regKey path) = none)
    (h : exportAndMerge w path name text = (w', .ok)) :
    ∃ l, w'.fs.lookup l = some (.file text) := by
  -- without a registry entry the step is the truncating create
  revert h
  fun_cases exportAndMerge w path name text with
  | case1 | case2 => exact nofun
  | case3 _ _ _ fs' hc =>
    rintro ⟨⟩
    obtain ⟨l, ⟨_, hl, _, _⟩, rfl⟩ := (fileCreate_eq_some _ _ _ _).mp hc
    exact ⟨l, lookup_set_self _ _ hl⟩
  | case4 _ _ _ hr | case5 _ _ _ hr | case6 _ _ _ hr | case7 _ _ _ hr => cases hreg.symm.trans hr

/-! ## non-vacuity: a cyclic graph with a shared dependency and a non-exportable node -/
example :
    let mk : Str → List Nat → TyInfo := fun n ds => { ident := n, outputPath := some (n ++ ".ts".toList), text := .ok ("// n\n\nexport type ".toList ++ n ++ " = 1;\n".toList), deps := ds }
    let u : Universe := [mk "A".toList [1, 2, 3], mk "B".toList [0, 2], mk "C".toList [],
                         { ident := "number".toList, outputPath := none, text := .error .cannotBeExported, deps := [] }, mk "Unreached".toList [0]]
    let w : World := { fs := { nodes := [(["w".toList], .dir)], cwd := ["w".toList] }, reg := [] }
    (exportRec u 6 w [] "./bindings".toList 0).map (fun r => (r.2.1, r.2.2)) = some ([2, 1, 0], Outcome.ok) := by
  decide +kernel

/-- **`export_all` is exactly one `export_into` per reachable exportable type**: a successful walk from `i` has the effect of calling
`export_into` for a duplicate-free list of types, one after the other, and that list consists of exactly the exportable types
reachable from `i`; nothing else touches the world. (What such a sequence leaves in each file is C05 / C06:
`C06_interleaved_history`, `C06_export_to_histories`.) -/
theorem C11_export_all_is_a_sequence (u : Universe) (fuel : Nat) (w w' : World) (dir : Str) (i : Nat) (seen' : List Nat)
    (h : exportRec u fuel w [] dir i = some (w', seen', .ok)) :
    ∃ order : List Nat, order.Nodup ∧ (∀ j, j ∈ order ↔ Reach u i j) ∧ runInto u dir w order = (w', true) :=
  exportRec_order u fuel w w' dir i seen' h

/-- **`export_all`, end to end**: a successful `export_all` from `i` over a table whose reachable entries are well-formed generated
texts with documented locations (`TableOK`: output path, text, identifier, target file; `TSlotsOK`: the target files are proper, different,
not ancestors of one another, not directories, no regular file on the way; every `dir / output_path()` has the normal form of its
target; per file distinct names) leaves, in EVERY target file that received a type, exactly the canonical text of the reachable types
that belong there (`files`), every other regular file as it was (`others`), and the registry listing exactly those types — whatever
the order of the walk, whatever directories existed before. Composition of `C11_export_all_is_a_sequence`, `runInto_eq_runOpsTo`
(`export_into` = `export_to` at `dir / output_path()`) and the several-files theorem of C06. -/
theorem C11_export_all_files (u : Universe) (slots : List TSlot) (dir : Str) (gen : Nat → GenT) (rel : Nat → Str) (slotOf : Nat → Nat)
    (fuel : Nat) (w w' : World) (i : Nat) (seen' : List Nat)
    (h : exportRec u fuel w [] dir i = some (w', seen', .ok))
    (htab : ∀ j, Reach u i j → TableOK u slots dir gen rel slotOf j)
    (hs : TSlotsOK w.fs slots)
    (hsp : ∀ j, Reach u i j → ∀ s, slots[slotOf j]? = some s → Path.absolute (cwdStr w.fs) (Path.join dir (rel j)) = .ok s.path)
    (hgen : ∀ j, Reach u i j → GenOK (gen j))
    (hname : ∀ j j', Reach u i j → Reach u i j' → slotOf j = slotOf j' → (gen j).name = (gen j').name → j = j')
    (hident : ∀ j j', Reach u i j → Reach u i j' → slotOf j = slotOf j' → (gen j).ident = (gen j').ident → j = j')
    (hp : w.poisoned = false) (hreg : ∀ s ∈ slots, regGet w.reg (regKey s.path) = none) :
    ∃ order : List Nat, order.Nodup ∧ (∀ j, j ∈ order ↔ Reach u i j) ∧
      TInv w.fs slots (order.map fun j => (slotOf j, gen j)) w' := by
  obtain ⟨order, hnd, hmem, hrun⟩ := C11_export_all_is_a_sequence u fuel w w' dir i seen' h
  obtain ⟨w'', hrun', hinv⟩ := runInto_repeats u slots dir gen rel slotOf order w _ (fun j hj => (hmem j).mp hj) htab hs hsp hgen hname hident
    hp hreg
  rw [firstNew_of_nodup order [] hnd (by simp)] at hinv
  cases hrun.symm.trans hrun'
  exact ⟨order, hnd, hmem, hinv⟩

/-! non-vacuity of `C11_export_all_files`: three types in two files (two of them share `shared.ts`), a cycle; the walk succeeds and
each file holds the canonical text of its types -/
def exGA : GenT := ⟨"Alpha".toList, "Alpha".toList, [("./Other".toList, ["Other".toList])], "export type Alpha = { o: Other, };".toList⟩
def exGB : GenT := ⟨"Beta".toList, "Beta".toList, [], "export type Beta = { a: Alpha, };".toList⟩
def exGO : GenT := ⟨"Other".toList, "Other".toList, [("./deep/shared".toList, ["Beta".toList])], "export type Other = Beta | null;".toList⟩
def exGen : Nat → GenT := fun j => if j = 0 then exGA else if j = 1 then exGB else exGO
def exRel : Nat → Str := fun j => if j = 2 then "Other.ts".toList else "deep/shared.ts".toList
def exSlotOf : Nat → Nat := fun j => if j = 2 then 1 else 0
def exGU : Universe := [0, 1, 2].map fun j => { ident := (exGen j).ident, outputPath := some (exRel j), text := .ok (genText (exGen j)), deps := [(j + 2) % 3] }
def exGSlots : List TSlot := [⟨["w".toList, "out".toList, "deep".toList], "shared.ts".toList⟩, ⟨["w".toList, "out".toList], "Other.ts".toList⟩]
def exGW : World := { fs := { nodes := [(["w".toList], .dir)], cwd := ["w".toList] }, reg := [] }
example : ∀ j, j < 3 → TableOK exGU exGSlots "./out".toList exGen exRel exSlotOf j ∧
    (∀ s, exGSlots[exSlotOf j]? = some s → Path.absolute (cwdStr exGW.fs) (Path.join "./out".toList (exRel j)) = .ok s.path) := by
  intro j hj
  rcases j with _ | _ | _ | j
  · exact ⟨⟨⟨_, rfl, rfl, rfl, rfl⟩, by decide⟩, by intro s hs; cases hs; unfold exGW exRel; lit_chars; decide +kernel⟩
  · exact ⟨⟨⟨_, rfl, rfl, rfl, rfl⟩, by decide⟩, by intro s hs; cases hs; unfold exGW exRel; lit_chars; decide +kernel⟩
  · exact ⟨⟨⟨_, rfl, rfl, rfl, rfl⟩, by decide⟩, by intro s hs; cases hs; unfold exGW exRel; lit_chars; decide +kernel⟩
  · omega
#guard ((exportRec exGU 8 exGW [] "./out".toList 0).map fun r => (r.2.1, r.2.2 == Outcome.ok)) == some ([1, 2, 0], true)
#guard ((exportRec exGU 8 exGW [] "./out".toList 0).bind fun r => r.1.fs.lookup ["w".toList, "out".toList, "deep".toList, "shared.ts".toList])
  == some (.file (fileText (canonSt [exGA, exGB])))
#guard ((exportRec exGU 8 exGW [] "./out".toList 0).bind fun r => r.1.fs.lookup ["w".toList, "out".toList, "Other.ts".toList])
  == some (.file (fileText (canonSt [exGO])))

/-- **the three documented locations**: `<TypeScript name>.ts` by default; the given path with `<TypeScript name>.ts` appended
when `export_to` ends in `/`; the given path verbatim otherwise — whatever its extension (`output_path()` as generated by the
derive, `Model/Deps.lean`, compared with the real `output_path()` of every compiled item). -/
theorem C11_output_path_cases (it : Item) :
    (it.attr.exportTo = none → Derive.outputPath it = Derive.tsName it ++ ".ts".toList) ∧
    (∀ p, it.attr.exportTo = some p → p.getLast? = some '/' → Derive.outputPath it = p ++ Derive.tsName it ++ ".ts".toList) ∧
    (∀ p, it.attr.exportTo = some p → p.getLast? ≠ some '/' → Derive.outputPath it = p) := by
  refine ⟨fun h => by simp [Derive.outputPath, h], fun p h hl => by simp [Derive.outputPath, h, hl], fun p h hl => by simp [Derive.outputPath, h, hl]⟩

/-- … and the location written is the directory joined with exactly that path: `export_into` hands `export_to` the normal form of
`dir / output_path()` (the path a type reports for itself is the path that gets written) -/
theorem C11_written_location (w : World) (t : TyInfo) (dir op : Str) (h : t.outputPath = some op) :
    exportInto w t dir = (match Path.absolute (cwdStr w.fs) (Path.join dir op) with
      | .error e => (w, .err e)
      | .ok p => exportTo w t p) := by
  simp only [exportInto, h]
  cases Path.absolute (cwdStr w.fs) (Path.join dir op) <;> rfl

example : Derive.outputPath { isEnum := false, name := "T".toList, attr := { exportTo := some "forms/v1.ts/".toList } } = "forms/v1.ts/T.ts".toList
    ∧ Derive.outputPath { isEnum := false, name := "T".toList, attr := { exportTo := some "forms/index".toList } } = "forms/index".toList := by lit_chars; decide +kernel

end TsRs
