import TsRsVerif.Model.Case
import TsRsVerif.Lemmas.LitChars
/-!
# C09 — rename_all yields the names serde puts on the wire, for every identifier

`applyToField` / `applyToVariant` model ts-rs (after the `fix:` commit that gave fields and variants
serde's two routines); `serdeField` / `serdeVariant` model serde_derive 1.0.215 `case.rs` (oracle).
serde's routines can panic (byte slicing in `camelCase`); then `derive(Serialize)` does not compile
and nothing is put on the wire, so the statement is: whenever serde produces a name, ts-rs produces
the same one.  All theorems hold for EVERY identifier (any length, any characters) and for EVERY
instantiation of the Unicode tables (`CharOps`).
-/
namespace TsRs
open Case

/-- where serde's byte slicing does not panic it does what `lowercase_first_char` does -/
theorem lowerFirstByte_ok (t n : Str) (h : lowerFirstByte t = .ok n) : lowerFirstChar t = n := by
  cases t with
  | nil => cases h
  | cons c cs =>
    simp only [lowerFirstByte] at h
    split at h <;> cases h
    rfl

/-- **C09, struct fields and fields of struct variants**: all 8 rules, every identifier. -/
theorem C09_field (ops : CharOps) (r : Rule) (s n : Str) (h : serdeField ops r s = .ok n) :
    applyToField ops r s = n := by
  cases r
  case camel => exact lowerFirstByte_ok _ _ h
  -- every other rule: serde's routine is `.ok` of the very expression ts-rs computes
  all_goals cases h; rfl

/-- **C09, enum variants**: all 8 rules, every identifier. -/
theorem C09_variant (ops : CharOps) (r : Rule) (s n : Str) (h : serdeVariant ops r s = .ok n) :
    applyToVariant ops r s = n := by
  cases r
  case camel => exact lowerFirstByte_ok _ _ h
  all_goals cases h; rfl

/-- ts-rs's renaming is total: where serde's own routine would panic (so that
    `derive(Serialize)` fails to compile) ts-rs still returns a name instead of panicking. -/
theorem C09_total (ops : CharOps) (r : Rule) (s : Str) :
    (∃ n, applyToField ops r s = n) ∧ (∃ n, applyToVariant ops r s = n) := ⟨⟨_, rfl⟩, ⟨_, rfl⟩⟩

/-- the property name printed into the binding denotes the renamed name: `raw_name_to_ts_field`
    either leaves it as it is or wraps it in double quotes -/
theorem C09_binding_name (ops : CharOps) (n : Str) :
    rawNameToTsField ops n = n ∨ rawNameToTsField ops n = quoteStr ops n := by
  unfold rawNameToTsField
  cases validName ops n <;> simp

/-! ## non-vacuity / sanity: concrete identifiers outside Rust naming conventions -/
example : applyToField asciiOps .snake "fooBar".toList = "fooBar".toList
    ∧ serdeField asciiOps .snake "fooBar".toList = .ok "fooBar".toList := by lit_chars; decide +kernel
example : applyToVariant asciiOps .camel "Foo_Bar".toList = "foo_Bar".toList
    ∧ serdeVariant asciiOps .camel "Foo_Bar".toList = .ok "foo_Bar".toList := by lit_chars; decide +kernel
example : applyToField asciiOps .screamingKebab "a__b_1".toList = "A--B-1".toList := by lit_chars; decide +kernel
example : applyToVariant asciiOps .kebab "HTTPServer_x".toList = "h-t-t-p-server_x".toList.map (fun c => if c = '_' then '-' else c) := by lit_chars; decide +kernel
/-- serde panics here (`__` has an empty Pascal form), ts-rs returns the empty name -/
example : serdeField asciiOps .camel "__".toList = .panic "byte index 1 is out of bounds"
    ∧ applyToField asciiOps .camel "__".toList = [] := by lit_chars; decide +kernel

/-! ## the defect of the pinned snapshot (single `Inflection::apply`), as counter-example theorems.
These are why the `fix:` commit exists; `applyOld` is the old routine. -/
theorem C09_old_cex_field_snake :
    applyOld asciiOps .snake "fooBar".toList ≠ serdeField asciiOps .snake "fooBar".toList := by lit_chars; decide +kernel
theorem C09_old_cex_field_lower :
    applyOld asciiOps .lower "fooBar".toList ≠ serdeField asciiOps .lower "fooBar".toList := by lit_chars; decide +kernel
theorem C09_old_cex_field_screaming :
    applyOld asciiOps .screamingSnake "fooBar".toList ≠ serdeField asciiOps .screamingSnake "fooBar".toList := by lit_chars; decide +kernel
theorem C09_old_cex_field_kebab :
    applyOld asciiOps .kebab "fooBar".toList ≠ serdeField asciiOps .kebab "fooBar".toList := by lit_chars; decide +kernel
theorem C09_old_cex_variant_camel :
    applyOld asciiOps .camel "Foo_Bar".toList ≠ serdeVariant asciiOps .camel "Foo_Bar".toList := by lit_chars; decide +kernel
theorem C09_old_cex_variant_pascal :
    applyOld asciiOps .pascal "Foo_Bar".toList ≠ serdeVariant asciiOps .pascal "Foo_Bar".toList := by lit_chars; decide +kernel
theorem C09_old_cex_camel_panics :
    applyOld asciiOps .camel "__".toList = .panic "byte index 1 is out of bounds" := by lit_chars; decide +kernel

end TsRs
