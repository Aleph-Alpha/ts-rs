import TsRsVerif.Model.Deps
import TsRsVerif.Lemmas.DeInst
import TsRsVerif.Model.TsEval
import TsRsVerif.Model.TsNorm
import TsRsVerif.Lemmas.LitChars
/-!
# C07 — declarations of generic types are parametric and well-scoped

Theorems over the string-level model of the generated impl (`Model/Derive.lean`, `Model/Deps.lean`).
As DESIGN.md §9 says, parametricity is close to definitional in the model (the model's `declS`
does not take the type arguments, exactly because the generated `decl()` replaces them by
placeholder types first); what carries the claim is the relational tie of `tools/props/c07.py`,
which compares the real `decl()` of ≥3 instantiations of every generic item.
-/
namespace TsRs
open Text Derive

/-- the declaration a type expression's `decl()` prints: only the ITEM matters, not the arguments -/
def declOf (cfg : Cfg) (env : Env) (fuel : Nat) : RTy → Res Str
  | .named id _ => match env.find id with
    | some it => declS cfg env fuel it
    | none => .panic "unknown type"
  | _ => .panic "cannot be declared"

/-- **parametric**: `decl()` is the same text for every choice of type arguments -/
theorem C07_parametric (cfg : Cfg) (env : Env) (fuel : Nat) (id : Str) (args₁ args₂ : List RTy) :
    declOf cfg env fuel (.named id args₁) = declOf cfg env fuel (.named id args₂) := rfl

/-- **binders and shape of the declaration**: `type <name><binders> = <body at the placeholders>;`
where the binders are exactly the non-concretised type parameters, in order, each with its default
(`declBinders`), and the body is evaluated with every such parameter bound to ITSELF (`declSubst`),
so it can mention no other parameter name -/
theorem C07_decl_shape (cfg : Cfg) (env : Env) (fuel : Nat) (it : Item) (d : TDef) (ps : List Str)
    (hd : itemDef cfg env fuel it (declSubst it) = .ok d) (hps : declBinders env it = .ok ps) :
    declS cfg env fuel it = .ok ("type ".toList ++ tsName it ++
      (if ps = [] then [] else "<".toList ++ intercalate ", ".toList ps ++ ">".toList) ++ " = ".toList ++ d.1 ++ ";".toList) := by
  unfold declS
  rw [hd, hps]
  rfl

/-- the binder list has one entry per non-concretised type parameter, in order -/
theorem C07_binders_length (env : Env) (it : Item) (ps : List Str) (h : declBinders env it = .ok ps) :
    ps.length = (it.generics.filter fun g => (it.attr.concrete.find? (·.1 = g.name)).isNone).length := by
  unfold declBinders at h
  generalize (it.generics.filter fun g => (it.attr.concrete.find? (·.1 = g.name)).isNone) = gs at h
  induction gs generalizing ps with
  | nil => simp [bindersOf] at h; subst h; rfl
  | cons g gs ih =>
    simp only [bindersOf] at h
    split at h
    · rename_i x xs _ hxs
      simp only [Res.ok.injEq] at h
      subst h
      simp [ih xs hxs]
    · simp at h
    · simp at h

/-- **a reference to an instantiation is the identifier applied to the names of the
non-concretised arguments** -/
theorem C07_name (env : Env) (id : Str) (args : List RTy) (it : Item) (all : List Str)
    (hit : env.find id = some it) (hall : nameSL env args = .ok all) :
    nameS env (.named id args) = .ok (
      let xs := (it.generics.zip all).filterMap fun (g, x) =>
        if (it.attr.concrete.find? (·.1 = g.name)).isSome then none else some x
      if xs = [] then tsName it else tsName it ++ "<".toList ++ intercalate ", ".toList xs ++ ">".toList) := by
  simp only [nameS, hit, hall, bind, Res.bind, pure]

/-- **`decl_concrete()` is the declaration body instantiated at the arguments** (it is `inline()`) -/
theorem C07_concrete_is_inline (cfg : Cfg) (env : Env) (fuel : Nat) (id : Str) (args : List RTy) (it : Item) (s : Str)
    (hit : env.find id = some it) (hin : inlineS cfg env (fuel + 1) (.named id args) = .ok s) :
    declConcreteS cfg env fuel it args = .ok ("type ".toList ++ tsName it ++ " = ".toList ++ s ++ ";".toList) := by
  simp only [inlineS, hit, bind, Res.bind] at hin
  unfold declConcreteS
  cases hd : itemDef cfg env fuel it (bindArgs it args) with
  | panic w => simp [hd] at hin
  | ok d =>
    simp only [hd, pure, Res.ok.injEq] at hin
    rw [← hin]
    rfl

/-! ## non-vacuity: a generic struct with a default and a concretised parameter -/
def exLeaf : Item := { isEnum := false, name := "Leaf".toList, fields := [{ name := some "v".toList, ty := .prim "u8" }] }
def exG : Item :=
  { isEnum := false, name := "G".toList,
    generics := [{ name := "A".toList }, { name := "B".toList, default := some (.named "Leaf".toList []) }, { name := "C".toList }],
    attr := { concrete := [("C".toList, .prim "i32")] },
    fields := [{ name := some "a".toList, ty := .vec (.param "A".toList) }, { name := some "b".toList, ty := .param "B".toList },
               { name := some "c".toList, ty := .param "C".toList }] }
example : declS { ops := Case.asciiOps } [exLeaf, exG] 20 exG
    = .ok "type G<A, B = Leaf> = { a: Array<A>, b: B, c: number, };".toList := by lit_chars; decide +kernel

/-! ## expanding the generic declaration at the arguments IS the instantiation's own declaration (tree level)

The tree-level model (`Model/TreeDerive.lean`: the declaration as a TypeScript type tree, tied to the real `decl()` text by the
compiled correspondence of C01 / C07) for every item without `inline` / `flatten` / `as` / `type` / `concrete`: the body of the item
whose Rust definition has the arguments in place of the parameters (what `decl_concrete()` of the instantiation prints) is the generic
body with the TypeScript names of the arguments substituted for the binders — the same tree, so it denotes the same type under every
set of declarations. For every item of that fragment (structs of every shape, enums of every representation, optional fields,
renames), every argument list whose names exist. -/
open Tree Builtin in
theorem C07_expansion_is_concrete (cfg : Cfg) (env : Env) (it : Item) (names : List Str) (args : List RTy) (targs : List Ts) (b : Ts)
    (hargs : nameTyBL cfg.limit (nameN env) args = some targs)
    (h : itemBody cfg env it = some b)
    (hS : it.isEnum = false → it.shape = .named → it.fields.all (fieldOkN cfg it.attr.renameAll it.attr.optionalFields) = true)
    (hE : it.isEnum = true → ∀ v ∈ it.variants, v.shape = .named → v.fields.all (fieldOkN cfg (renameAllT it v) .no) = true) :
    itemBody cfg env (Item.inst (names.zip args) it) = some (Ts.subst (names.zip targs) b) :=
  itemBody_inst cfg env names args targs hargs it b h hS hE

/-- … hence the two denote the same set of JSON values, whatever the other declarations are -/
theorem C07_expansion_denotes_concrete (cfg : Cfg) (env : Env) (it : Item) (names : List Str) (args : List RTy) (targs : List Ts) (b c : Ts)
    (hargs : Builtin.nameTyBL cfg.limit (Tree.nameN env) args = some targs)
    (h : Tree.itemBody cfg env it = some b)
    (hS : it.isEnum = false → it.shape = .named → it.fields.all (Tree.fieldOkN cfg it.attr.renameAll it.attr.optionalFields) = true)
    (hE : it.isEnum = true → ∀ v ∈ it.variants, v.shape = .named → v.fields.all (Tree.fieldOkN cfg (Tree.renameAllT it v) .no) = true)
    (hc : Tree.itemBody cfg env (Item.inst (names.zip args) it) = some c) (D : Decls) (fuel : Nat) (j : JVal) :
    Ts.memberb D fuel c j = Ts.memberb D fuel (Ts.subst (names.zip targs) b) j := by
  rw [C07_expansion_is_concrete cfg env it names args targs b hargs h hS hE] at hc
  injection hc with hc; rw [hc]

/-- the reference to the instantiation is the identifier applied to the names of the arguments (tree level) -/
theorem C07_reference_tree (cfg : Cfg) (env : Env) (id : Str) (args : List RTy) (T : Ts)
    (h : Tree.tyTs cfg env (.named id args) = some T) :
    ∃ it targs, env.find id = some it ∧ Builtin.nameTyBL cfg.limit (Tree.nameN env) args = some targs ∧
      targs.length = it.generics.length ∧ T = .ref (tsName it) targs := by
  obtain ⟨targs, ha, hN⟩ := Option.bind_eq_some_iff.mp (show (Builtin.nameTyBL cfg.limit (Tree.nameN env) args).bind (Tree.nameN env id) = some T from h)
  obtain ⟨it, hf, hl, e⟩ := nameN_eq_some.mp hN
  exact ⟨it, targs, hf, ha, hl, e⟩

/-! non-vacuity: a generic enum with its parameter bare, in a `Vec` and under `Option`, at `bool` -/
def exC7Cfg : Cfg := { ops := { isUpper := fun c => Case.isAsciiUpper c, isAlnum := fun _ => true, isNumeric := fun _ => false, strLower := id, strUpper := id } }
def exC7G : Item := { isEnum := true, name := "G".toList, generics := [{ name := "T".toList }], attr := { tag := some "k".toList }, variants := [
  { name := "N".toList, shape := .unit, fields := [] },
  { name := "L".toList, shape := .named, fields := [{ name := some "l".toList, ty := .vec (.param "T".toList) }, { name := some "o".toList, ty := .option (.param "T".toList) }] }] }
example : (∀ v ∈ exC7G.variants, v.shape = .named → v.fields.all (Tree.fieldOkN exC7Cfg (Tree.renameAllT exC7G v) .no) = true)
    := by decide +kernel
#guard match Builtin.nameTyBL exC7Cfg.limit (Tree.nameN [exC7G]) [.prim "bool"] with | some ts => Ts.beqL ts [.boolean] | none => false
#guard (Tree.itemBody exC7Cfg [exC7G] exC7G).isSome
#guard match Tree.itemBody exC7Cfg [exC7G] (Item.inst (["T".toList].zip [.prim "bool"]) exC7G), Tree.itemBody exC7Cfg [exC7G] exC7G with
  | some c, some b => Ts.beq c (Ts.subst (["T".toList].zip [.boolean]) b) && !Ts.beq c b
  | _, _ => false

end TsRs
