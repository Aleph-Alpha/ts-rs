import TsRsVerif.Model.Path
import TsRsVerif.Lemmas.TextLemmas
import TsRsVerif.Lemmas.PathLemmas
import TsRsVerif.Lemmas.AbsLemmas
import TsRsVerif.Lemmas.LitChars
/-!
# C08 — import specifiers resolve to the dependency's file for every path pair

Statement file: the property theorems, counter-examples showing the hypotheses are needed, and
non-vacuity examples. Helper lemmas live in `Lemmas/`.
-/
namespace TsRs
open Text Path

/-- **C08 (main theorem).** For *every* importing file `frm` and imported file `imp` (any spelling,
any depth) whose lexically normalised absolute forms are `/fd…/<file>` and `/td…/tf.ts`:
`import_path` succeeds and its specifier is relative, has forward slashes only, carries no `.ts`
extension, ends in `.js` exactly for ES modules, and resolves — from the directory of the importing
file — to exactly the imported file. No bound on depth or name length. A stem that itself ends in `.js` is excluded only
without ES-module imports (there `./a.js` would be ambiguous; with them `a.js.ts` is imported as `./a.js.js`, which resolves). -/
theorem C08_resolves (esm : Bool) (cwd frm imp dir p b : Str) (fd td : List Str) (tf : Str)
    (hdir : parent frm = some dir)
    (hp : absolute cwd imp = .ok p) (hb : absolute cwd dir = .ok b)
    (hpc : components p = Comp.root :: N (td ++ [tf ++ dotTs]))
    (hbc : components b = Comp.root :: N fd)
    (hok : ∀ n ∈ fd ++ td ++ [tf ++ dotTs], NameOK n)
    (htf : tf ≠ []) (hts : endsWith dotTs tf = false) (hjs : esm = false → endsWith dotJs tf = false)
    (hnp : ¬ (td ++ [tf ++ dotTs]) <+: fd) :
    ∃ spec, importPath esm cwd frm imp = some (.ok spec) ∧
      specGood esm fd (td ++ [tf ++ dotTs]) spec = true := by
  rw [importPath_eq esm cwd frm imp dir p b _ fd hdir hp hb hpc hbc]
  refine ⟨_, rfl, ?_⟩
  obtain ⟨C, A', B', hA, hfd, hdiff⟩ := diffLoop_N (td ++ [tf ++ dotTs]) fd
  -- the target is not the importing directory or above it: below the common prefix `C` something is left of it, ending in the file
  obtain ⟨init, rfl⟩ : ∃ init, A' = init ++ [tf ++ dotTs] := by
    rcases List.eq_nil_or_concat A' with rfl | ⟨init, l, rfl⟩
    · exact absurd ⟨B', by rw [hfd, hA, List.append_nil]⟩ hnp
    · have := congrArg List.getLast? hA
      simp only [List.concat_eq_append, ← List.append_assoc, List.getLast?_concat, Option.some.injEq] at this
      exact ⟨init, by simp [this]⟩
  have hname : ∀ n ∈ init ++ [tf ++ dotTs], NameOK n := fun n hn =>
    hok n (by rw [List.append_assoc, hA]; simp only [List.mem_append] at hn ⊢; exact Or.inr (Or.inr hn))
  have hpiece : ∀ q ∈ ups B' ++ init ++ [tf ++ dotTs], q ≠ [] ∧ '/' ∉ q ∧ '\\' ∉ q := by
    intro q hq
    rw [List.append_assoc] at hq
    rcases List.mem_append.mp hq with h | h
    · obtain ⟨_, _, rfl⟩ := List.mem_map.mp h; decide
    · exact ⟨(hname q h).1, (hname q h).2.1, (hname q h).2.2.1⟩
  have hdot : (ups B' ++ init).head? ≠ some ['.'] := by
    cases B' with
    | cons _ _ => simp [ups]
    | nil =>
      cases init with
      | nil => simp [ups]
      | cons a _ => simpa [ups] using (hname a (by simp)).2.2.2.1
  rw [hdiff, ofComps_diff, ← List.append_assoc]
  refine specGood_specOfRel esm fd _ _ tf hpiece hdot hts hjs ?_
  rw [hfd, List.append_assoc, resolveLoop_ups, resolveLoop_names C _ fun q hq => ⟨(hname q hq).2.2.2.1, (hname q hq).2.2.2.2⟩, hA]

/-! ## non-vacuity: concrete, non-trivial instances satisfying every hypothesis of `C08_resolves` -/

/-- sibling directories, relative spelling with dot segments, base `./bindings` -/
example : ∃ spec, importPath false "/w".toList "./bindings/x/../a/A.ts".toList "bindings//b/./B.ts".toList
      = some (.ok spec) ∧
    specGood false ["w".toList, "bindings".toList, "a".toList]
      (["w".toList, "bindings".toList, "b".toList] ++ ["B".toList ++ dotTs]) spec = true := by
  refine C08_resolves false "/w".toList "./bindings/x/../a/A.ts".toList "bindings//b/./B.ts".toList
    "./bindings/x/../a".toList "/w/bindings/b/B.ts".toList "/w/bindings/a".toList
    ["w".toList, "bindings".toList, "a".toList] ["w".toList, "bindings".toList, "b".toList] "B".toList
    ?_ ?_ ?_ ?_ ?_ ?_ ?_ ?_ ?_ ?_ <;> lit_chars <;> decide +kernel

/-- the computed specifier of that instance -/
example : importPath false "/w".toList "./bindings/x/../a/A.ts".toList "bindings//b/./B.ts".toList
    = some (.ok "../b/B".toList) := by lit_chars; decide +kernel

/-- ES-module flavour, file whose name ends in `ts` and contains dots -/
example : importPath true "/w".toList "/out/deep/er/A.ts".toList "/out/posts.v1.ts".toList
    = some (.ok "../../posts.v1.js".toList) := by lit_chars; decide +kernel

/-! ## the stem condition is necessary (counter-examples, by evaluation) -/

/-- `trim_end_matches(".ts")` strips repeatedly: `a.ts.ts` is imported as `./a`, which resolves to `a.ts` -/
theorem C08_cex_stem_ts :
    importPath false "/w".toList "/w/x.ts".toList "/w/a.ts.ts".toList = some (.ok "./a".toList) ∧
    specGood false ["w".toList] ["w".toList, "a.ts.ts".toList] "./a".toList = false := by lit_chars; decide +kernel

/-- a stem ending in `.js` yields a specifier ending in `.js` although ES-module imports are off -/
theorem C08_cex_stem_js :
    importPath false "/w".toList "/w/x.ts".toList "/w/a.js.ts".toList = some (.ok "./a.js".toList) ∧
    specGood false ["w".toList] ["w".toList, "a.js.ts".toList] "./a.js".toList = false := by lit_chars; decide +kernel

/-- **C08 for every spelling of the two paths.** `C08_resolves` assumes the shape of the two normalised
absolute paths; this theorem DERIVES it. For every absolute current directory, every importing file `frm`
with a parent directory and every imported file `imp` — written relative or absolute, with `.`, `..`,
repeated or trailing separators, at any depth — on which `path::absolute` succeeds: the two results
are `/` followed by proper component names only (no `.`, no `..`, no empty piece, no separator inside a
name: `fd` for the importing directory, `A` for the imported file), and whenever the imported file is
`…/tf.ts` with a stem that is not itself `….ts` (nor `….js` without ES-module imports), the names carry
no backslash and the file is not the importing directory or one of its ancestors, `import_path`
returns a specifier satisfying all of C08's clauses for exactly those `fd` and `A`. Nothing about the
normal form is assumed; what is left are conditions on the NAMES, each shown necessary by a
counter-example below. -/
theorem C08_resolves_any_spelling (esm : Bool) (cwd frm imp dir p b : Str)
    (hcwd : isAbsolute cwd = true)
    (hdir : parent frm = some dir)
    (hp : absolute cwd imp = .ok p) (hb : absolute cwd dir = .ok b) :
    ∃ fd A, components p = Comp.root :: N A ∧ components b = Comp.root :: N fd ∧
      (∀ n ∈ fd ++ A, CompName n) ∧
      ∀ td tf, A = td ++ [tf ++ dotTs] → (∀ n ∈ fd ++ A, '\\' ∉ n) → tf ≠ [] →
        endsWith dotTs tf = false → (esm = false → endsWith dotJs tf = false) → ¬ A <+: fd →
        ∃ spec, importPath esm cwd frm imp = some (.ok spec) ∧ specGood esm fd A spec = true := by
  obtain ⟨A, hpA, hA⟩ := absolute_shape cwd imp p hcwd hp
  obtain ⟨fd, hbF, hF⟩ := absolute_shape cwd dir b hcwd hb
  have hpc : components p = Comp.root :: N A := by rw [hpA]; exact components_ofComps A hA
  have hbc : components b = Comp.root :: N fd := by rw [hbF]; exact components_ofComps fd hF
  have hall : ∀ n ∈ fd ++ A, CompName n := by
    intro n hn
    rcases List.mem_append.mp hn with h | h
    · exact hF n h
    · exact hA n h
  refine ⟨fd, A, hpc, hbc, hall, ?_⟩
  intro td tf hAeq hbs htf hts hjs hnp
  subst hAeq
  refine C08_resolves esm cwd frm imp dir p b fd td tf hdir hp hb hpc hbc ?_ htf hts hjs hnp
  intro n hn
  have hn' : n ∈ fd ++ (td ++ [tf ++ dotTs]) := by simpa [List.append_assoc] using hn
  have hc := hall n hn'
  exact ⟨hc.1, hc.2.1, hbs n hn', hc.2.2.1, hc.2.2.2⟩

/-- non-vacuity: the hypotheses hold for an instance with dot segments and doubled separators, and the
conclusion's specifier is the expected one -/
example : isAbsolute "/w".toList = true ∧
    parent "./bindings/x/../a/A.ts".toList = some "./bindings/x/../a".toList ∧
    absolute "/w".toList "bindings//b/./B.ts".toList = .ok "/w/bindings/b/B.ts".toList ∧
    absolute "/w".toList "./bindings/x/../a".toList = .ok "/w/bindings/a".toList ∧
    importPath true "/w".toList "./bindings/x/../a/A.ts".toList "bindings//b/./B.ts".toList
      = some (.ok "../b/B.js".toList) ∧
    specGood true ["w".toList, "bindings".toList, "a".toList]
      (["w".toList, "bindings".toList, "b".toList] ++ ["B".toList ++ dotTs]) "../b/B.js".toList = true := by lit_chars; decide +kernel

/-- the backslash condition is necessary: a directory named `a\b` reaches the specifier unchanged -/
theorem C08_cex_backslash :
    importPath false "/w".toList "/w/x.ts".toList "/w/a\\b/T.ts".toList = some (.ok "./a\\b/T".toList) ∧
    specGood false ["w".toList] ["w".toList, "a\\b".toList, "T.ts".toList] "./a\\b/T".toList = false := by lit_chars; decide +kernel

/-- the ancestor condition is necessary: importing a "file" that is the importing directory itself
yields an empty relative path, which is not a relative specifier -/
theorem C08_cex_ancestor :
    importPath false "/w".toList "/w/d.ts/x.ts".toList "/w/d.ts".toList = some (.ok [])  ∧
    specGood false ["w".toList, "d.ts".toList] ["w".toList, "d.ts".toList] [] = false := by lit_chars; decide +kernel

/-- **`from.parent().unwrap()` in `import_path` cannot panic**: every path that has a file name — every
path `generate_imports` passes, `out_dir.join(output_path)` of an exportable type — has a parent, so the
model's `importPath` is never `none` (its encoding of that panic) on such a path. -/
theorem C08_parent_exists (esm : Bool) (cwd frm imp f : Str) (h : fileName frm = some f) :
    (∃ dir, parent frm = some dir) ∧ importPath esm cwd frm imp ≠ none := by
  have hp : ∃ dir, parent frm = some dir := by
    unfold fileName at h
    unfold parent
    cases hc : (components frm).reverse with
    | nil =>
      have : components frm = [] := by simpa using hc
      simp [this] at h
    | cons c rest =>
      have hl : (components frm).getLast? = some c := by
        rw [List.getLast?_eq_head?_reverse, hc]; rfl
      rw [hl] at h
      cases c with
      | root => simp at h
      | cur => exact ⟨_, rfl⟩
      | parent => exact ⟨_, rfl⟩
      | normal n => exact ⟨_, rfl⟩
  refine ⟨hp, ?_⟩
  obtain ⟨dir, hd⟩ := hp
  simp [importPath, hd]

/-- non-vacuity, and the excluded case: `/` has no file name and no parent -/
example : fileName "./bindings/a/A.ts".toList = some "A.ts".toList ∧ fileName "/".toList = none ∧
    parent "/".toList = none := by lit_chars; decide +kernel

end TsRs
