import TsRsVerif.Model.Deps
import TsRsVerif.Lemmas.DenotLemmas
import TsRsVerif.Lemmas.UnfoldCheck
/-!
# C14 — inline, flatten and `as` change presentation, never meaning

Theorems over the string-level model of the derive. `as = "U"`: the item is processed exactly as if
the Rust type at that position were `U`. Inline: `inline()` of a type IS the body of its concrete
declaration. The denotational statements are theorems about the meaning of TypeScript types (`Member`):
`C14_inline_same_values` (a reference and its unfolded body denote the same values; also below `Array<..>` and
`.. | null`), `C14_flatten_is_merge` (`{ A } & { B }` with disjoint property names denotes exactly what the merged
literal `{ A B }` denotes — the textual merge ts-rs performs). That the REAL declarations of sibling items are such
unfoldings / merges of each other is decided on every run by the relational oracle of `tools/props/c14.py`
(normal-form comparison of the real declarations, and cross-membership of real JSON).
-/
namespace TsRs
open Derive

/-- replace the Rust type of a field by `U` and drop its `as` -/
def retype (f : Field) (U : RTy) : Field := { f with ty := U, attr := { f.attr with typeAs := none } }

theorem effTy_retype (f : Field) (U : RTy) : effTy (retype f U) = U := rfl
theorem effTy_as (f : Field) (U : RTy) (h : f.attr.typeAs = some U) : effTy f = U := by simp [effTy, h]

/-- **`as = "U"` on a named field yields exactly the binding the field would have if its Rust type
were `U`**: the whole field list is formatted identically (names, optional markers, inline/flatten
handling, docs), for every struct, every attribute combination and every other field. -/
theorem C14_as_named_field (cfg : Cfg) (env : Env) (fuel : Nat) (σ : List (Str × RTy)) (attr : SAttr)
    (pre post : List Field) (f : Field) (U : RTy) (h : f.attr.typeAs = some U) :
    formatFields cfg env fuel σ attr (pre ++ f :: post) = formatFields cfg env fuel σ attr (pre ++ retype f U :: post) := by
  induction pre generalizing fuel with
  | nil =>
    cases fuel with
    | zero => rfl
    | succ n => simp only [List.nil_append, formatFields, effTy_retype, effTy_as f U h]; rfl
  | cons p ps ih =>
    cases fuel with
    | zero => rfl
    | succ n => simp only [List.cons_append, formatFields]; rw [ih n]

/-- the same for the single field of a newtype struct / variant -/
theorem C14_as_newtype (cfg : Cfg) (env : Env) (fuel : Nat) (σ : List (Str × RTy)) (f : Field) (U : RTy)
    (h : f.attr.typeAs = some U) :
    newtypeDef cfg env fuel σ f = newtypeDef cfg env fuel σ (retype f U) := by
  cases fuel with
  | zero => rfl
  | succ n => simp only [newtypeDef, effTy_retype, effTy_as f U h]; rfl

/-- … and for a field of a tuple struct / variant -/
theorem C14_as_tuple_field (cfg : Cfg) (env : Env) (fuel : Nat) (σ : List (Str × RTy))
    (pre post : List Field) (f : Field) (U : RTy) (h : f.attr.typeAs = some U) :
    tupleFields cfg env fuel σ (pre ++ f :: post) = tupleFields cfg env fuel σ (pre ++ retype f U :: post) := by
  induction pre generalizing fuel with
  | nil =>
    cases fuel with
    | zero => rfl
    | succ n => simp only [List.nil_append, tupleFields, effTy_retype, effTy_as f U h]; rfl
  | cons p ps ih =>
    cases fuel with
    | zero => rfl
    | succ n => simp only [List.cons_append, tupleFields]; rw [ih n]

/-- **container-level `as = "U"`**: the item's inline form is `U`'s inline form (at the arguments) -/
theorem C14_as_container (cfg : Cfg) (env : Env) (fuel : Nat) (σ : List (Str × RTy)) (attr : SAttr) (name : Str)
    (shape : Shape) (fields : List Field) (U : RTy) (hover : attr.typeOverride = none) (h : attr.typeAs = some U) :
    typeDef cfg env (fuel + 1) σ attr name shape fields
      = (inlineS cfg env fuel (RTy.subst σ U)).bind fun s => .ok (s, none) := by
  simp [typeDef, hover, h, bind, Res.bind, pure]

/-- **the inline form of a type is the body of its own declaration instantiated at its arguments**:
`inline()` and `decl_concrete()` of `N<args>` are computed from the same `itemDef` at the same
substitution -/
theorem C14_inline_is_body (cfg : Cfg) (env : Env) (fuel : Nat) (id : Str) (args : List RTy) (it : Item) (d : TDef)
    (hit : env.find id = some it) (hd : itemDef cfg env fuel it (bindArgs it args) = .ok d) :
    inlineS cfg env (fuel + 1) (.named id args) = .ok d.1 ∧
    declConcreteS cfg env fuel it args = .ok ("type ".toList ++ tsName it ++ " = ".toList ++ d.1 ++ ";".toList) := by
  constructor
  · simp [inlineS, hit, hd, bind, Res.bind, pure]
  · simp [declConcreteS, hd, bind, Res.bind, pure]

/-- an inlined field prints the field type's `inline()`, a plain field its `name()`: the ONLY
difference between the two presentations of a named field -/
theorem C14_inline_vs_name (cfg : Cfg) (env : Env) (fuel : Nat) (σ : List (Str × RTy)) (attr : SAttr) (f : Field)
    (hs : f.attr.skip = false) (ho : f.attr.typeOverride = none) (hf : f.attr.flatten = false)
    (hopt : f.attr.optional = .no) (hso : attr.optionalFields = .no) (s : Str)
    (hty : (if f.attr.inline then inlineS cfg env (fuel + 1) (RTy.subst σ (effTy f))
            else nameS env (RTy.subst σ (effTy f))) = .ok s) :
    formatFields cfg env (fuel + 2) σ attr [f]
      = .ok ([fieldDocs f.attr.docs ++ fieldTsName cfg attr.renameAll f ++ ": ".toList ++ s ++ ",".toList], []) := by
  simp only [formatFields, hs, ho, hf, hopt, hso, bind, Res.bind, pure, Bool.false_eq_true, if_false]
  cases hi : f.attr.inline
  · simp only [hi, Bool.false_eq_true, if_false] at hty ⊢
    simp [hty]
  · simp only [hi, if_true] at hty ⊢
    simp [hty]

open Ts

/-- **inline never changes meaning**: a reference `Name<args>` and the body of the declaration unfolded at those
arguments (what `#[ts(inline)]` prints) denote the same set of JSON values, for every declaration environment -/
theorem C14_inline_same_values (D : Decls) (n : Str) (args : List Ts) (ps : List Str) (body : Ts) (j : JVal)
    (hl : lookupDecl D n = some (ps, body)) :
    Member D (.ref n args) j ↔ Member D (subst (ps.zip args) body) j := member_ref_iff D n args ps body j hl

/-- … also when the inlined type stands below `Vec` (`Array<..>`) or `Option` (`.. | null`) -/
theorem C14_inline_below_containers (D : Decls) (t t' : Ts) (h : ∀ j, Member D t j ↔ Member D t' j) (j : JVal) :
    (Member D (.array t) j ↔ Member D (.array t') j) ∧ (Member D (.union [t, .null]) j ↔ Member D (.union [t', .null]) j) :=
  ⟨member_array_congr D t t' h j, member_union_cons_congr D t t' [.null] h j⟩

/-- **flatten never changes meaning**: merging the properties of the flattened object type into the parent's literal
(what ts-rs prints for `#[serde(flatten)]` on a struct) denotes exactly the intersection `{ parent } & { flattened }`,
whenever the two have no property name in common (JSON objects with distinct keys) -/
theorem C14_flatten_is_merge (D : Decls) (A B : List (TsKey × Ts)) (kvs : List (Str × JVal))
    (hdisj : ∀ k, k ∈ namesOf A → k ∉ namesOf B) (hnd : (kvs.map (·.1)).Nodup) :
    Member D (.inter [.obj A, .obj B]) (.obj kvs) ↔ Member D (.obj (A ++ B)) (.obj kvs) := by
  constructor
  · intro h
    cases h with
    | interVal hv _ _ => cases hv
    | @interObj _ _ _ kvs1 kvs2 hperm mA mB _ =>
      have mB : Member D (.obj B) (.obj kvs2) := by
        cases mB with
        | interOne hm => exact hm
        | interObj _ _ _ hne => exact absurd rfl hne
        | interVal hv _ _ => cases hv
      have hnd12 := (hperm.map (·.1)).nodup_iff.2 hnd
      rw [List.map_append, List.nodup_append] at hnd12
      obtain ⟨fA, kA⟩ := (member_obj_iff_of_nodup hnd12.1).1 mA
      obtain ⟨fB, kB⟩ := (member_obj_iff_of_nodup hnd12.2.1).1 mB
      have hmem : ∀ kv, kv ∈ kvs ↔ kv ∈ kvs1 ∨ kv ∈ kvs2 := fun kv => hperm.mem_iff.symm.trans List.mem_append
      -- a key of the whole that is a property of `A` (of `B`) is a key of the first (second) part
      have hkey : ∀ {k}, k ∈ kvs.map (·.1) → (k ∈ namesOf A → k ∈ kvs1.map (·.1)) ∧ (k ∈ namesOf B → k ∈ kvs2.map (·.1)) := by
        intro k hk
        obtain ⟨kv, hkv, rfl⟩ := List.mem_map.1 hk
        rcases (hmem kv).1 hkv with h | h
        · exact ⟨fun _ => List.mem_map_of_mem h, fun hb => absurd hb (hdisj _ (kA kv h))⟩
        · exact ⟨fun ha => absurd (kB kv h) (hdisj _ ha), fun _ => List.mem_map_of_mem h⟩
      refine (member_obj_iff_of_nodup hnd).2 ⟨fun f hf => ?_, fun kv hkv => ?_⟩
      · rcases List.mem_append.1 hf with hf | hf
        · exact (fA f hf).imp (fun ⟨v, hm, hv⟩ => ⟨v, (hmem _).2 (.inl hm), hv⟩)
            fun ⟨hn, ho⟩ => ⟨fun hk => hn ((hkey hk).1 (List.mem_map_of_mem hf)), ho⟩
        · exact (fB f hf).imp (fun ⟨v, hm, hv⟩ => ⟨v, (hmem _).2 (.inr hm), hv⟩)
            fun ⟨hn, ho⟩ => ⟨fun hk => hn ((hkey hk).2 (List.mem_map_of_mem hf)), ho⟩
      · exact mem_namesOf_append.2 (((hmem kv).1 hkv).imp (kA kv) (kB kv))
  · intro h
    obtain ⟨hf, hk⟩ := (member_obj_iff_of_nodup hnd).1 h
    -- split the entries by whether their key is a property of `A`
    let p : Str × JVal → Bool := fun kv => decide (kv.1 ∈ namesOf A)
    have nd : ∀ q, ((kvs.filter q).map (·.1)).Nodup := fun q => hnd.sublist (List.filter_sublist.map _)
    refine .interObj (List.filter_append_perm p kvs) ((member_obj_iff_of_nodup (nd _)).2 ⟨fun f hfm => ?_, fun kv hkv => ?_⟩)
      (.interOne ((member_obj_iff_of_nodup (nd _)).2 ⟨fun f hfm => ?_, fun kv hkv => ?_⟩)) (by simp)
    · have hn : f.1.name ∈ namesOf A := List.mem_map_of_mem hfm
      exact (hf f (List.mem_append_left _ hfm)).imp (fun ⟨v, hm, hv⟩ => ⟨v, List.mem_filter.2 ⟨hm, by simpa [p] using hn⟩, hv⟩)
        fun ⟨hn, ho⟩ => ⟨fun hk' => hn ((List.filter_sublist.map _).subset hk'), ho⟩
    · simpa [p] using (List.mem_filter.1 hkv).2
    · have hn : f.1.name ∉ namesOf A := fun ha => hdisj _ ha (List.mem_map_of_mem hfm)
      exact (hf f (List.mem_append_right _ hfm)).imp (fun ⟨v, hm, hv⟩ => ⟨v, List.mem_filter.2 ⟨hm, by simpa [p] using hn⟩, hv⟩)
        fun ⟨hn, ho⟩ => ⟨fun hk' => hn ((List.filter_sublist.map _).subset hk'), ho⟩
    · obtain ⟨hkv, hp⟩ := List.mem_filter.1 hkv
      exact (mem_namesOf_append.1 (hk kv hkv)).resolve_left (by simpa [p] using hp)

/-- **inline changes presentation, never meaning — for whole sets of declarations**: let `D'` be obtained from `D` by unfolding
references inside the declaration bodies — any number of them, at any depth (inside arrays, tuples, objects, maps, unions,
intersections, below other unfolded references), parenthesised or not, a union reached by unfolding an arm of a union spliced
into it: everything `#[ts(inline)]` does. Then every type `t` under `D` and each of its unfoldings `t'` under `D'` have exactly
the same JSON values. `WSD D`: every declaration mentions only its own type parameters (C07). -/
theorem C14_unfolding_same_values (D D' : Decls) (hw : WSD D) (hd : DeclsUnf D D') (t t' : Ts) (u : Unf D t t') (j : JVal) :
    Member D t j ↔ Member D' t' j := unfold_same_values hw hd u j

/-- … in the form the check uses: when the executable test accepts the pair (declarations of the program without its `inline`
marks, parsed REAL declarations of the program with them), every reference has the same values under both -/
theorem C14_checked_unfolding (D D' : Decls) (fuel : Nat) (hw : wsdB D = true) (h : declsUnfB D fuel D D' = true)
    (n : Str) (args : List Ts) (j : JVal) : Member D (.ref n args) j ↔ Member D' (.ref n args) j :=
  unfold_same_values (wsdB_sound D hw) (declsUnfB_sound D D' fuel h) (unf_refl D _) j

/-! non-vacuity: a generic declaration inlined below an array inside another declaration, and an enum inlined into `.. | null` -/
def exD : Decls := [("L".toList, [], .obj [({ name := "x".toList }, .number)]),
  ("G".toList, ["T".toList], .obj [({ name := "t".toList }, .param "T".toList), ({ name := "l".toList }, .ref "L".toList [])]),
  ("E".toList, [], .union [.lit "a".toList, .lit "b".toList]),
  ("S".toList, [], .obj [({ name := "gs".toList }, .array (.ref "G".toList [.string])), ({ name := "e".toList }, .union [.ref "E".toList [], .null])])]
def exD' : Decls := [("L".toList, [], .obj [({ name := "x".toList }, .number)]),
  ("G".toList, ["T".toList], .obj [({ name := "t".toList }, .param "T".toList), ({ name := "l".toList }, .obj [({ name := "x".toList }, .number)])]),
  ("E".toList, [], .union [.lit "a".toList, .lit "b".toList]),
  ("S".toList, [], .obj [({ name := "gs".toList }, .array (.obj [({ name := "t".toList }, .string), ({ name := "l".toList }, .ref "L".toList [])])),
                         ({ name := "e".toList }, .union [.lit "a".toList, .lit "b".toList, .null])])]
example : wsdB exD = true ∧ declsUnfB exD 12 exD exD' = true := by decide +kernel

end TsRs
