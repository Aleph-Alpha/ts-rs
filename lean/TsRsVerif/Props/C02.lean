import TsRsVerif.Model.TsWitness
import TsRsVerif.Model.TsEval
import TsRsVerif.Lemmas.MemberbSound
import TsRsVerif.Lemmas.DeComplete2
import TsRsVerif.Lemmas.UnfoldCheck
/-!
# C02 — every inhabitant of the generated TypeScript type deserializes

`Model/De.lean` is an acceptance model of serde's `Deserialize` (validated against the real `serde_json::from_str` on every
candidate of every run). `C02_members_are_accepted` proves the property for every enum representation — externally, internally,
adjacently tagged, `untagged` enums and single `untagged` variants (serde tries them in turn: the rank is the minimum) —, generic items and their
instantiations included (`Lemmas/DeInst.lean`: reading a value as `Name<A, B>` is reading it as the instance of the item, whose
body is the generic body with the argument names substituted, and which is again in the fragment): a JSON value with
distinct keys that inhabits the generated type is never rejected for its shape — the model accepts it, or rejects it only
because of a LEAF (a number outside the Rust leaf type's range, a string that is not one character for `char`), which is what
the statement's parenthesis excludes. The proof is an induction on the membership derivation (`Member.hered`) over every library type,
struct shape and enum representation of the fragment (`Lemmas/DeComplete*.lean`). `C02_real_members_are_accepted` transports it
to declarations with `#[ts(inline)]` through the unfolding theorem. Outside the fragment (`flatten`) the check still feeds witnesses to the real Deserialize; `C02_kept_candidates_are_members` makes a rejection there a
genuine counter-example.
-/
namespace TsRs
open Ts

/-- the filter the check applies to candidate witnesses -/
def keep (D : Decls) (t : Ts) (cands : List JVal) : List JVal := cands.filter fun j => memberb D 60 t j

/-- **every kept candidate inhabits the declared type** — so when serde rejects one, the declared
type really is wider than what the backend accepts -/
theorem C02_kept_candidates_are_members (D : Decls) (t : Ts) (cands : List JVal) :
    ∀ j ∈ keep D t cands, Member D t j := by
  intro j hj
  exact memberb_sound D 60 t j (by simpa [keep] using (List.mem_filter.mp hj).2)

/-- the enumerated witnesses of a union include witnesses of each arm that has any (each arm is
tried: this is what makes a superfluous or mis-tagged arm visible) -/
theorem C02_union_arms_enumerated (D : Decls) (cap f : Nat) (xs : List Ts) (w : JVal)
    (h : w ∈ witnesses D cap (f + 1) (.union xs)) : ∃ x ∈ xs, w ∈ witnesses D cap f x := by
  simp only [witnesses, capList] at h
  have h1 := List.mem_of_mem_take h
  rw [List.mem_flatMap] at h1
  obtain ⟨x, hx, hw⟩ := h1
  exact ⟨x, hx, List.mem_of_mem_take hw⟩

/-! ## non-vacuity -/
example : JVal.beqList (witnesses [] 24 10 (.union [.obj [({ name := "t".toList }, .lit "A".toList)],
      .obj [({ name := "t".toList }, .lit "B".toList), ({ name := "c".toList, optional := true }, .array .bigint)]]))
    [.obj [("t".toList, .str "A".toList)],
       .obj [("t".toList, .str "B".toList), ("c".toList, .arr [])],
       .obj [("t".toList, .str "B".toList), ("c".toList, .arr [.int 1])],
       .obj [("t".toList, .str "B".toList)]] = true := by decide +kernel

open Tree De in
/-- **every inhabitant is accepted (up to leaves)**: in a program of the fragment (`deFragB`: `Tree.fragB`, distinct variant keys, field types the acceptance model reads), for every type expression `t` over its
items and every JSON value `j` with distinct keys that inhabits the tree-level TypeScript type of `t`: for all sufficient fuel the
acceptance model of serde's Deserialize gives rank 0 (accepted) or 1 (rejected for a number out of the leaf's range or a
non-one-character `char` only) — never a missing property, an unknown tag, a wrong arm, a wrong tuple length or a wrong kind of value. -/
theorem C02_members_are_accepted (cfg : Cfg) (env : Env) (hF : deFragB cfg env = true) (t : RTy) (T : Ts) (j : JVal)
    (hT : tyTs cfg env t = some T) (hok : tyOk cfg.limit t = true) (hw : wfJ j = true) (m : Member (declsOf cfg env) T j) :
    ∃ f0, ∀ f, f0 ≤ f → accTy cfg env f t j ≤ 1 :=
  accTy_good cfg env t j (gTy cfg env hF m t hT hok hw)

open Tree De in
/-- the same against declarations `D'` that the executable unfolding test accepts (the parsed REAL declarations of the program
with its `#[ts(inline)]` marks): their members are members of the tree-level declarations (`unfold_same_values`), hence accepted -/
theorem C02_real_members_are_accepted (cfg : Cfg) (env : Env) (hF : deFragB cfg env = true) (D' : Decls) (ufuel : Nat)
    (hw : wsdB (declsOf cfg env) = true) (hu : declsUnfB (declsOf cfg env) ufuel (declsOf cfg env) D' = true)
    (t : RTy) (T : Ts) (j : JVal) (hT : tyTs cfg env t = some T) (hok : tyOk cfg.limit t = true) (hwj : wfJ j = true)
    (m : Member D' T j) :
    ∃ f0, ∀ f, f0 ≤ f → accTy cfg env f t j ≤ 1 := by
  have m0 : Member (declsOf cfg env) T j :=
    (unfold_same_values (wsdB_sound _ hw) (declsUnfB_sound _ D' ufuel hu) (unf_refl _ _) j).mpr m
  exact C02_members_are_accepted cfg env hF t T j hT hok hwj m0

/-! non-vacuity: a program of the fragment (a struct with an optional field and a map, an internally tagged enum), a member, rank 0 -/
def exDeEnv : Env := [
  { isEnum := false, name := "P".toList, fields := [
      { name := some "x".toList, ty := .prim "u8" },
      { name := some "o".toList, ty := .option (.prim "String"), attr := { optional := .optional, skipSerIfNone := true } },
      { name := some "m".toList, ty := .map (.prim "u32") (.vec (.prim "bool")) }] },
  { isEnum := true, name := "E".toList, attr := { tag := some "t".toList }, variants := [
      { name := "A".toList, shape := .unit, fields := [] },
      { name := "B".toList, shape := .named, fields := [{ name := some "p".toList, ty := .named "P".toList [] }] }] },
  -- a generic enum and a struct using two instances of it
  { isEnum := true, name := "G".toList, generics := [{ name := "T".toList }], variants := [
      { name := "N".toList, shape := .unit, fields := [] },
      { name := "S".toList, shape := .tuple, fields := [{ name := none, ty := .param "T".toList }] },
      { name := "L".toList, shape := .named, fields := [{ name := some "l".toList, ty := .vec (.param "T".toList) }] }] },
  -- an enum with one `untagged` variant next to tagged ones, and an `untagged` enum
  { isEnum := true, name := "M".toList, variants := [
      { name := "T".toList, shape := .tuple, fields := [{ name := none, ty := .prim "u8" }] },
      { name := "Raw".toList, shape := .named, fields := [{ name := some "raw".toList, ty := .prim "String" }], attr := { untagged := true } }] },
  { isEnum := true, name := "X".toList, attr := { untagged := true }, variants := [
      { name := "A".toList, shape := .tuple, fields := [{ name := none, ty := .named "P".toList [] }] },
      { name := "B".toList, shape := .unit, fields := [] }] },
  { isEnum := false, name := "U".toList, fields := [
      { name := some "a".toList, ty := .named "G".toList [.prim "bool"] },
      { name := some "b".toList, ty := .named "G".toList [.named "G".toList [.named "P".toList []]] }] }]
def exDeCfg : Cfg := { ops := { isUpper := fun c => Case.isAsciiUpper c, isAlnum := fun _ => true, isNumeric := fun _ => false, strLower := id, strUpper := id } }
def exDeJ : JVal := .obj [("t".toList, .str "B".toList), ("p".toList, .obj [("x".toList, .int 7), ("m".toList, .obj [("12".toList, .arr [.bool true])])])]

example : deFragB exDeCfg exDeEnv = true := by decide +kernel
example : wfJ exDeJ = true ∧ tyOk exDeCfg.limit (.named "E".toList []) = true := by decide +kernel
#guard memberb (Tree.declsOf exDeCfg exDeEnv) 20 (.ref "E".toList []) exDeJ
#guard De.accTy exDeCfg exDeEnv 20 (.named "E".toList []) exDeJ == 0
def exDeJ2 : JVal := .obj [("a".toList, .obj [("S".toList, .bool true)]),
  ("b".toList, .obj [("L".toList, .obj [("l".toList, .arr [.str "N".toList, .obj [("S".toList, .obj [("x".toList, .int 1), ("m".toList, .obj [])])]])])])]
example : wfJ exDeJ2 = true ∧ tyOk exDeCfg.limit (.named "U".toList []) = true := by decide +kernel
#guard memberb (Tree.declsOf exDeCfg exDeEnv) 30 (.ref "U".toList []) exDeJ2
#guard De.accTy exDeCfg exDeEnv 30 (.named "U".toList []) exDeJ2 == 0
#guard De.accTy exDeCfg exDeEnv 30 (.named "M".toList []) (.obj [("raw".toList, .str "x".toList)]) == 0
#guard memberb (Tree.declsOf exDeCfg exDeEnv) 30 (.ref "M".toList []) (.obj [("raw".toList, .str "x".toList)])
#guard De.accTy exDeCfg exDeEnv 30 (.named "X".toList []) .null == 0
#guard De.accTy exDeCfg exDeEnv 30 (.named "X".toList []) (.obj [("x".toList, .int 1), ("m".toList, .obj [])]) == 0
#guard De.accTy exDeCfg exDeEnv 30 (.named "X".toList []) (.obj [("y".toList, .int 1)]) == 3
-- the instance decides: `G<bool>` does not read a number
#guard De.accTy exDeCfg exDeEnv 30 (.named "G".toList [.prim "bool"]) (.obj [("S".toList, .int 1)]) == 3
-- a wrong tag, a missing required property: rejected for their shape; `x: 300` only for the leaf
#guard De.accTy exDeCfg exDeEnv 20 (.named "E".toList []) (.obj [("t".toList, .str "C".toList)]) == 3
#guard De.accTy exDeCfg exDeEnv 20 (.named "P".toList []) (.obj [("x".toList, .int 7)]) == 3
#guard De.accTy exDeCfg exDeEnv 20 (.named "P".toList []) (.obj [("x".toList, .int 300), ("m".toList, .obj [])]) == 1

end TsRs
