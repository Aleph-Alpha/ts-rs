import TsRsVerif.Model.Deps
import TsRsVerif.Lemmas.ImportLemmas
import TsRsVerif.Lemmas.DepsLemmas
import TsRsVerif.Lemmas.SameFile
import TsRsVerif.Props.C08
/-!
# C03 — exported files import exactly the names they use, from where they live

Theorems about `generateImports` (= `generate_imports`, export.rs:326-381) for EVERY list of visited
dependencies (every dependency graph, every placement): the import block never imports from the
file itself, names every specifier once and every name once per specifier, in sorted order.
`C03_imports_exactly_used`: for every monomorphic item of the fragment (structs of every shape, enums of every
representation, rename / tag / skip / optional, any library types around user types, generic user types applied to
arguments) the names `dependencies()` visits are EXACTLY the names the declaration mentions — nothing missing, nothing
unused (`Lemmas/UsedNames.lean`: mentioned = visited for every type expression; `Lemmas/DepsLemmas.lean`: per field,
variant, item). Its hypotheses exclude exactly the recorded findings (zero-length arrays, `inline` / `flatten`).
`C03_generic_imports_exactly_used`: the same for GENERIC items — the file of `G<T>` is generated from `G<Dummy>`
(`T::WithoutGenerics`), the names visited are exactly the declarations the generic body refers to, the parameters themselves are
bound by the header (`Lemmas/DepsLemmas.lean` carries a renaming `σ` of the parameters throughout: a dependency `t` is visited as `t[σ]`,
and renaming parameters changes no declaration name; the monomorphic theorem is `σ = []`).
`C03_generic_with_defaults`: with defaults of type parameters the names visited are those of the body together with those of the
defaults — both are written in the declaration (`type G<A, B = D> = body`).
PARTIAL: `concrete`, `inline`, `flatten`, `as`; there the claim is decided on every run by the closure
oracle over the real exported directories (independent TypeScript reader), and the four known exceptions are recorded
as findings with witnesses.
-/
namespace TsRs
open Text Derive Merge Path

/-- invariant: well-formed (sorted, duplicate-free) and no specifier that denotes the file itself -/
def ImportsOK (path : Str) (m : Imports) : Prop :=
  ImportsWF m ∧ ∀ k ∈ m.map (·.1), Path.isSameFile path k = false

theorem importStep_ok {esm : Bool} {cwd outDir path : Str} {acc : Option (Except ExportErr Imports)} {d : Visited} {m1 : Imports}
    (h : importStep esm cwd outDir path acc d = some (.ok m1)) :
    ∃ m0, acc = some (.ok m0) ∧ (m1 = m0 ∨ ∃ rel, Path.isSameFile path rel = false ∧ m1 = insertImport rel d.ident m0) := by
  unfold importStep at h
  split at h
  · cases h
  · cases h
  · rename_i m0
    refine ⟨m0, rfl, ?_⟩
    split at h
    · cases h
    · cases h
    · rename_i rel _
      split at h <;> cases h
      · exact .inl rfl
      · exact .inr ⟨rel, Bool.eq_false_iff.mpr ‹_›, rfl⟩

theorem importStep_inv (esm : Bool) (cwd outDir path : Str) (ds : List Visited) :
    ∀ (acc : Option (Except ExportErr Imports)) (m : Imports),
      (∀ m0, acc = some (.ok m0) → ImportsOK path m0) →
      ds.foldl (importStep esm cwd outDir path) acc = some (.ok m) → ImportsOK path m := by
  induction ds with
  | nil => exact fun acc m h hm => h m hm
  | cons d ds ih =>
    intro acc m h hm
    refine ih _ m (fun m1 h1 => ?_) hm
    obtain ⟨m0, rfl, rfl | ⟨rel, hs, rfl⟩⟩ := importStep_ok h1
    · exact h _ rfl
    · have h0 := h m0 rfl
      refine ⟨insertImport_wf rel d.ident m0 h0.1, fun k hk => ?_⟩
      rcases (insertImport_keys rel d.ident m0 k).mp hk with rfl | hk'
      · exact hs
      · exact h0.2 k hk'

/-- **the import block of every exported file**: (a) no import line names the file itself;
(b) the specifiers are strictly sorted — one `import type` line per imported file;
(c) under each specifier the names are strictly sorted — every name imported exactly once. -/
theorem C03_import_block (esm : Bool) (cwd outDir path : Str) (ds : List Visited) (m : Imports)
    (h : ds.foldl (importStep esm cwd outDir path) (some (.ok [])) = some (.ok m)) :
    (∀ k ∈ m.map (·.1), Path.isSameFile path k = false) ∧
    (m.map (·.1)).Pairwise (fun a b => ltStr a b = true) ∧
    (∀ e ∈ m, e.2.Nodup) := by
  have := importStep_inv esm cwd outDir path ds (some (.ok [])) m
    (fun m0 h0 => by
      simp only [Option.some.injEq, Except.ok.injEq] at h0
      subst h0; exact ⟨⟨by simp, by simp⟩, by simp⟩) h
  refine ⟨this.2, this.1.1, fun e he => ?_⟩
  exact (this.1.2 e he).imp (fun hab => ltStr_ne hab)

/-- the same, stated for `generate_imports` itself: whatever text it returns is the rendering of
such a well-formed, self-free import map -/
theorem C03_generate_imports (esm : Bool) (cwd outDir : Str) (it : Item) (deps : List Visited) (text : Str)
    (h : generateImports esm cwd outDir it deps = some (.ok text)) :
    ∃ m : Imports, text = renderImports m ++ ['\n'] ∧
      (∀ k ∈ m.map (·.1), Path.isSameFile (Path.join outDir (outputPath it)) k = false) ∧
      (m.map (·.1)).Pairwise (fun a b => ltStr a b = true) ∧ (∀ e ∈ m, e.2.Nodup) := by
  unfold generateImports at h
  simp only at h
  split at h
  · cases h
  · cases h
  · rename_i m hf
    cases h
    exact ⟨m, rfl, C03_import_block esm cwd outDir _ _ m hf⟩

/-- **imports exactly what it uses**: the names visited by `dependencies()` of a monomorphic item of the fragment are
exactly the names its declaration mentions -/
theorem C03_imports_exactly_used (cfg : Cfg) (env : Env) (it : Item) (f : Nat) (body : Ts)
    (hfind : env.find it.name = some it) (hg : it.generics = [])
    (hta : it.attr.typeAs = none) (hto : it.attr.typeOverride = none)
    (hv : ∀ v ∈ it.variants, v.attr.typeAs = none ∧ v.attr.typeOverride = none)
    (hp : ∀ fld ∈ it.fields, PlainField env f fld) (hpv : ∀ v ∈ it.variants, ∀ fld ∈ v.fields, PlainField env f fld)
    (hb : Tree.itemBody cfg env it = some body) :
    ∀ n, n ∈ idents (visitDeps env (f + 1) (.named it.name [])) ↔ n ∈ refNames body :=
  fun n => (visitDeps_mono env it f hfind hg n).trans (bodyDeps_visit (Renaming.nil cfg env) it body hta hto hv hp hpv hb n)

/-- **… with defaults of type parameters**: the declaration `type G<A, B = D> = body` mentions the names of the body and the names of
the defaults; those, and only those, are visited (hence imported) -/
theorem C03_generic_with_defaults (cfg : Cfg) (env : Env) (it : Item) (f : Nat) (body : Ts)
    (hfind : env.find it.name = some it) (hconc : it.attr.concrete = [])
    (hdef : ∀ g ∈ it.generics, ∀ d, g.default = some d → tyWF env d = true ∧ depthR d < f ∧ (Tree.tyTs cfg env d).isSome)
    (hta : it.attr.typeAs = none) (hto : it.attr.typeOverride = none)
    (hv : ∀ v ∈ it.variants, v.attr.typeAs = none ∧ v.attr.typeOverride = none)
    (hp : ∀ fld ∈ it.fields, PlainField env f fld) (hpv : ∀ v ∈ it.variants, ∀ fld ∈ v.fields, PlainField env f fld)
    (hS : it.isEnum = false → it.shape = .named → it.fields.all (Tree.fieldOkN cfg it.attr.renameAll it.attr.optionalFields) = true)
    (hE : it.isEnum = true → ∀ v ∈ it.variants, v.shape = .named → v.fields.all (Tree.fieldOkN cfg (Tree.renameAllT it v) .no) = true)
    (hb : Tree.itemBody cfg env it = some body) :
    ∀ n, n ∈ idents (visitDeps env (f + 1) (withoutGenerics it)) ↔ (n ∈ refNames body ∨ n ∈ defaultNames cfg env it) := by
  intro n
  obtain ⟨hwg, hσ⟩ := Renaming.dummies cfg env it hconc
  rw [hwg, visitDeps_named env f it.name _ it hfind, idents_dedup, itemDeps_split, List.flatMap_append, idents_append, List.mem_append,
    bodyDeps_visit hσ it body hta hto hv hp hpv hb, defaultDeps_visit hσ it hconc hdef]

/-- **… and for a generic item**: what `generate_imports::<T::WithoutGenerics>` visits (the item at the placeholder `Dummy` for every
parameter) are exactly the names of declarations its generic body refers to; type parameters are bound by the declaration's own
header and are not imported. For items of the fragment without parameter defaults and without `concrete`. -/
theorem C03_generic_imports_exactly_used (cfg : Cfg) (env : Env) (it : Item) (f : Nat) (body : Ts)
    (hfind : env.find it.name = some it) (hdef : ∀ g ∈ it.generics, g.default = none) (hconc : it.attr.concrete = [])
    (hta : it.attr.typeAs = none) (hto : it.attr.typeOverride = none)
    (hv : ∀ v ∈ it.variants, v.attr.typeAs = none ∧ v.attr.typeOverride = none)
    (hp : ∀ fld ∈ it.fields, PlainField env f fld) (hpv : ∀ v ∈ it.variants, ∀ fld ∈ v.fields, PlainField env f fld)
    (hS : it.isEnum = false → it.shape = .named → it.fields.all (Tree.fieldOkN cfg it.attr.renameAll it.attr.optionalFields) = true)
    (hE : it.isEnum = true → ∀ v ∈ it.variants, v.shape = .named → v.fields.all (Tree.fieldOkN cfg (Tree.renameAllT it v) .no) = true)
    (hb : Tree.itemBody cfg env it = some body) :
    ∀ n, n ∈ idents (visitDeps env (f + 1) (withoutGenerics it)) ↔ n ∈ refNames body := by
  intro n
  -- without defaults the header mentions nothing
  have h0 : defaultNames cfg env it = [] := List.flatMap_eq_nil_iff.mpr fun g hg => by rw [hdef g hg]
  rw [C03_generic_with_defaults cfg env it f body hfind hconc (fun g hg d hd => by rw [hdef g hg] at hd; cases hd)
    hta hto hv hp hpv hS hE hb n, h0]
  simp

/-! non-vacuity: a generic struct over a leaf type and its own parameters -/
def exGenEnv : Env := [
  { isEnum := false, name := "L".toList, fields := [{ name := some "v".toList, ty := .prim "u8" }] },
  { isEnum := false, name := "G".toList, generics := [{ name := "T".toList }, { name := "U".toList }], fields := [
      { name := some "t".toList, ty := .param "T".toList }, { name := some "l".toList, ty := .vec (.named "L".toList []) },
      { name := some "m".toList, ty := .map (.prim "String") (.option (.param "U".toList)) }] }]
#guard idents (visitDeps exGenEnv 6 (withoutGenerics exGenEnv[1]!)) == ["L".toList]
#guard (Tree.itemBody { ops := Case.asciiOps } exGenEnv exGenEnv[1]!).map refNames == some ["L".toList]
def exGenEnvD : Env := [
  { isEnum := false, name := "L".toList, fields := [{ name := some "v".toList, ty := .prim "u8" }] },
  { isEnum := false, name := "M".toList, fields := [{ name := some "w".toList, ty := .prim "bool" }] },
  { isEnum := false, name := "H".toList, generics := [{ name := "A".toList }, { name := "B".toList, default := some (.vec (.named "M".toList [])) }], fields := [
      { name := some "a".toList, ty := .param "A".toList }, { name := some "b".toList, ty := .param "B".toList },
      { name := some "l".toList, ty := .named "L".toList [] }] }]
#guard idents (visitDeps exGenEnvD 6 (withoutGenerics exGenEnvD[2]!)) == ["L".toList, "M".toList]
#guard defaultNames { ops := Case.asciiOps } exGenEnvD exGenEnvD[2]! == ["M".toList]

/-- … for every type expression: what `visit::<T>()` + `visit_generics` reach = what the TypeScript name of `T` mentions -/
theorem C03_type_mentions_eq_visits (cfg : Cfg) (env : Env) (t : RTy) (T : Ts) (f : Nat)
    (hw : tyWF env t = true) (hd : depthR t < f) (hT : Tree.tyTs cfg env t = some T) :
    ∀ n, n ∈ idents (visitOne env f t ++ visitGenerics env f t) ↔ n ∈ refNames T :=
  visit_refs cfg env t T f hw hd hT

/-- the finding C03-zero-length-array, in the model: `[L; 0]` mentions nothing but still visits `L` -/
theorem C03_cex_zero_length_array :
    let env : Env := [{ isEnum := false, name := "L".toList, fields := [{ name := some "v".toList, ty := .prim "u8" }] }]
    refNames ((Tree.tyTs { ops := Case.asciiOps } env (.arr (.named "L".toList []) 0)).getD .never) = [] ∧
    idents (visitGenerics env 3 (.arr (.named "L".toList []) 0)) = ["L".toList] := by
  decide +kernel

/-- the type's own instantiation is never among the candidates (`dep.type_id != TypeId::of::<T>()`) -/
theorem C03_self_filtered (it : Item) (deps : List Visited) :
    ∀ d ∈ deps.filter (fun d => !RTy.beq d.ty (withoutGenerics it)), RTy.beq d.ty (withoutGenerics it) = false := by
  intro d hd
  simpa using (List.mem_filter.mp hd).2


/-! ## the `is_same_file` test (export.rs) against C08's specification of a specifier -/

/-- **An import is dropped as "same file" only when it is the importing file** (no ES-module imports): for
every importing file `…/ff.ts` whose stem does not itself end in `.ts`, every directory `fd` and every
target `A` — if a specifier meets C08's clauses for `A` (relative, resolves to `A` from `fd`, no `.js`: what
`C08_resolves` proves of `import_path`'s result) and passes `is_same_file`, then `A` is `fd/ff.ts`, the
importing file. So `generate_imports` never loses the import of a type that lives elsewhere. -/
theorem C03_same_file_only_self (fd A : List Str) (frm spec ff : Str)
    (hfn : Path.fileName frm = some (ff ++ Path.dotTs))
    (hffs : '/' ∉ ff) (hts : Text.endsWith Path.dotTs ff = false)
    (hgood : Path.specGood false fd A spec = true)
    (hsame : Path.isSameFile frm spec = true) :
    A = fd ++ [ff ++ Path.dotTs] := by
  simp only [specGood, Bool.and_eq_true, beq_iff_eq] at hgood
  obtain ⟨⟨_, hjs⟩, hres⟩ := hgood
  rw [isSameFile_iff frm spec ff hfn hts, trimEndMatches_none dotJs spec hjs] at hsame
  subst hsame
  simp only [resolve, Bool.false_eq_true, if_false] at hres
  rw [resolveLoop_dot_slash fd ff hffs] at hres
  exact (Option.some.inj hres).symm

/-- **… and the importing file itself is always recognised**: `./<stem>` passes the test, so a file never
imports from itself (stem ending neither in `.ts` nor in `.js`). -/
theorem C03_same_file_detects_self (frm ff : Str) (hfn : Path.fileName frm = some (ff ++ Path.dotTs))
    (hts : Text.endsWith Path.dotTs ff = false) (hjs : Text.endsWith Path.dotJs ff = false) :
    Path.isSameFile frm (['.', '/'] ++ ff) = true := by
  simpa using same_file_detects_self false frm ff hfn hts hjs

/-- non-vacuity: both theorems' hypotheses hold for `/w/bindings/a/A.ts` -/
example : Path.fileName "/w/bindings/a/A.ts".toList = some ("A".toList ++ Path.dotTs) ∧
    Path.specGood false ["w".toList, "a".toList] ["w".toList, "a".toList, "A.ts".toList] "./A".toList = true ∧
    Path.isSameFile "/w/bindings/a/A.ts".toList "./A".toList = true ∧
    Path.isSameFile "/w/bindings/a/A.ts".toList "../b/A".toList = false := by lit_chars; decide +kernel

/-- the stem condition is necessary: the file `a.ts.ts` imports from its sibling `a.ts` through the
specifier `./a`, which meets every clause of C08 — and `is_same_file` drops it (`trim_end_matches`
strips `.ts` twice). Same root as `C08_cex_stem_ts`; such file names need `export_to = "a.ts.ts"`. -/
theorem C03_cex_same_file_stem :
    Path.importPath false "/w".toList "/w/a.ts.ts".toList "/w/a.ts".toList = some (.ok "./a".toList) ∧
    Path.specGood false ["w".toList] ["w".toList, "a.ts".toList] "./a".toList = true ∧
    Path.isSameFile "/w/a.ts.ts".toList "./a".toList = true := by lit_chars; decide +kernel


/-- **The same with ES-module imports** (`import-esm`): the specifier is `s'.js` and the test strips `.js`
repeatedly, so `s'` must not itself end in `.js` — for `import_path`'s result: the target's stem does not. -/
theorem C03_same_file_only_self_esm (fd A : List Str) (frm spec s' ff : Str)
    (hfn : Path.fileName frm = some (ff ++ Path.dotTs))
    (hffs : '/' ∉ ff) (hts : Text.endsWith Path.dotTs ff = false)
    (hs : spec = s' ++ Path.dotJs) (hs' : Text.endsWith Path.dotJs s' = false)
    (hgood : Path.specGood true fd A spec = true)
    (hsame : Path.isSameFile frm spec = true) :
    A = fd ++ [ff ++ Path.dotTs] := by
  subst hs
  simp only [specGood, Bool.and_eq_true, beq_iff_eq] at hgood
  rw [isSameFile_iff frm _ ff hfn hts, trimEndMatches_once dotJs s' (by decide) hs'] at hsame
  subst hsame
  have hres := hgood.2
  simp only [resolve, if_true, stripSuffix_append, Option.map_some] at hres
  rw [resolveLoop_dot_slash fd ff hffs] at hres
  exact (Option.some.inj hres).symm

/-- non-vacuity of the ES-module statement -/
example : Path.specGood true ["w".toList] ["w".toList, "A.ts".toList] "./A.js".toList = true ∧
    Path.isSameFile "/w/A.ts".toList "./A.js".toList = true ∧
    Text.endsWith Path.dotJs "./A".toList = false := by lit_chars; decide +kernel

/-- its extra condition is necessary: with ES-module imports `a.ts` imports from its sibling `a.js.ts`
through `./a.js.js` — which C08 accepts and which resolves — and `is_same_file` drops it. -/
theorem C03_cex_same_file_stem_esm :
    Path.importPath true "/w".toList "/w/a.ts".toList "/w/a.js.ts".toList = some (.ok "./a.js.js".toList) ∧
    Path.specGood true ["w".toList] ["w".toList, "a.js.ts".toList] "./a.js.js".toList = true ∧
    Path.isSameFile "/w/a.ts".toList "./a.js.js".toList = true := by lit_chars; decide +kernel


/-- **A file never imports from itself, under any spelling of its own path** (no ES-module imports): for every
importing file `…/ff.ts` and every dependency path that normalises to the same file — relative, absolute,
with dot segments, at any depth — `import_path` returns `./ff` and the `is_same_file` test skips it. -/
theorem C03_self_import_skipped (cwd frm imp dir p b ff : Str) (fd : List Str)
    (hdir : Path.parent frm = some dir) (hfn : Path.fileName frm = some (ff ++ Path.dotTs))
    (hp : Path.absolute cwd imp = .ok p) (hb : Path.absolute cwd dir = .ok b)
    (hpc : Path.components p = Comp.root :: Path.N (fd ++ [ff ++ Path.dotTs]))
    (hbc : Path.components b = Comp.root :: Path.N fd)
    (hff : ff ≠ []) (hffs : '/' ∉ ff)
    (hts : Text.endsWith Path.dotTs ff = false) (hjs : Text.endsWith Path.dotJs ff = false) :
    Path.importPath false cwd frm imp = some (.ok (['.', '/'] ++ ff)) ∧
    Path.isSameFile frm (['.', '/'] ++ ff) = true := by
  simpa using self_import_skipped false cwd frm imp dir p b ff fd hdir hfn hp hb hpc hbc hffs hts hjs

/-- non-vacuity: one file under two spellings -/
example : Path.importPath false "/w".toList "./bindings/x/../a/A.ts".toList "bindings//a/./A.ts".toList
      = some (.ok "./A".toList) ∧
    Path.isSameFile "./bindings/x/../a/A.ts".toList "./A".toList = true := by
  refine C03_self_import_skipped "/w".toList "./bindings/x/../a/A.ts".toList "bindings//a/./A.ts".toList
    "./bindings/x/../a".toList "/w/bindings/a/A.ts".toList "/w/bindings/a".toList "A".toList
    ["w".toList, "bindings".toList, "a".toList]
    ?_ ?_ ?_ ?_ ?_ ?_ ?_ ?_ ?_ ?_ <;> lit_chars <;> decide +kernel


/-- **`generate_imports` drops a dependency only when it lives in the importing file** — the two halves put
together on `import_path`'s OWN result (no ES-module imports): under the hypotheses of `C08_resolves` for the
pair (importing file `…/ff.ts` in directory `fd`, dependency file `td…/tf.ts`), the specifier `import_path`
returns passes the `is_same_file` test only if `td…/tf.ts` IS `fd/ff.ts`. -/
theorem C03_dropped_import_is_self (cwd frm imp dir p b ff : Str) (fd td : List Str) (tf : Str)
    (hdir : Path.parent frm = some dir) (hfn : Path.fileName frm = some (ff ++ Path.dotTs))
    (hffs : '/' ∉ ff) (hffts : Text.endsWith Path.dotTs ff = false)
    (hp : Path.absolute cwd imp = .ok p) (hb : Path.absolute cwd dir = .ok b)
    (hpc : Path.components p = Comp.root :: Path.N (td ++ [tf ++ Path.dotTs]))
    (hbc : Path.components b = Comp.root :: Path.N fd)
    (hok : ∀ n ∈ fd ++ td ++ [tf ++ Path.dotTs], Path.NameOK n)
    (htf : tf ≠ []) (hts : Text.endsWith Path.dotTs tf = false) (hjs : Text.endsWith Path.dotJs tf = false)
    (hnp : ¬ (td ++ [tf ++ Path.dotTs]) <+: fd) :
    ∃ spec, Path.importPath false cwd frm imp = some (.ok spec) ∧
      (Path.isSameFile frm spec = true → td ++ [tf ++ Path.dotTs] = fd ++ [ff ++ Path.dotTs]) := by
  obtain ⟨spec, himp, hgood⟩ := C08_resolves false cwd frm imp dir p b fd td tf hdir hp hb hpc hbc hok htf hts
    (fun _ => hjs) hnp
  exact ⟨spec, himp, fun hsame => C03_same_file_only_self fd _ frm spec ff hfn hffs hffts hgood hsame⟩


/-- **… and with ES-module imports**: the same file under any spelling yields `./ff.js`, and the test skips it. -/
theorem C03_self_import_skipped_esm (cwd frm imp dir p b ff : Str) (fd : List Str)
    (hdir : Path.parent frm = some dir) (hfn : Path.fileName frm = some (ff ++ Path.dotTs))
    (hp : Path.absolute cwd imp = .ok p) (hb : Path.absolute cwd dir = .ok b)
    (hpc : Path.components p = Comp.root :: Path.N (fd ++ [ff ++ Path.dotTs]))
    (hbc : Path.components b = Comp.root :: Path.N fd)
    (hff : ff ≠ []) (hffs : '/' ∉ ff)
    (hts : Text.endsWith Path.dotTs ff = false) (hjs : Text.endsWith Path.dotJs ff = false) :
    Path.importPath true cwd frm imp = some (.ok (['.', '/'] ++ ff ++ Path.dotJs)) ∧
    Path.isSameFile frm (['.', '/'] ++ ff ++ Path.dotJs) = true := by
  simpa using self_import_skipped true cwd frm imp dir p b ff fd hdir hfn hp hb hpc hbc hffs hts hjs

example : Path.importPath true "/w".toList "./bindings/x/../a/A.ts".toList "bindings//a/./A.ts".toList
      = some (.ok "./A.js".toList) ∧
    Path.isSameFile "./bindings/x/../a/A.ts".toList "./A.js".toList = true := by lit_chars; decide +kernel


/-- **Only a specifier that starts with `./` can pass the `is_same_file` test**, for every importing file and
every specifier, with or without ES-module imports: a dependency reached through `../` — a parent or sibling
directory, whatever the file names (`v2/index.ts` importing `../index`, seeded change C03-19) — is never
taken for the importing file. -/
theorem C03_same_file_starts_dot_slash (frm spec : Str) (h : Path.isSameFile frm spec = true) :
    Text.startsWith ['.', '/'] spec = true := by
  unfold isSameFile at h
  cases hf : fileName frm with
  | none => simp [hf] at h
  | some f =>
    simp only [hf, beq_iff_eq] at h
    obtain ⟨t, ht⟩ := trimEndMatches_prefix dotJs spec
    rw [ht, ← h]
    simp [startsWith, stripPrefix]

/-- the situation of C03-19 in the model: same stem, parent directory -/
example : Path.importPath false "/w".toList "/w/v2/index.ts".toList "/w/index.ts".toList = some (.ok "../index".toList) ∧
    Path.isSameFile "/w/v2/index.ts".toList "../index".toList = false ∧
    Path.isSameFile "/w/v2/index.ts".toList "./index".toList = true := by lit_chars; decide +kernel

end TsRs
