import TsRsVerif.Model.Builtin
import TsRsVerif.Lemmas.BuiltinLemmas
import TsRsVerif.Model.TsEval
/-!
# C12 — built-in impls describe serde's representation of library types

`nameTyB` models the hand-written `impl TS for …` blocks of ts-rs/src/lib.rs (driven by the
GENERATED primitive table); `serB` is the oracle model of serde/serde_json for the same types.
-/
namespace TsRs
open Ts Builtin

/-- the decidable form of `TableOK`, evaluated over the whole generated table -/
def tableOKb : Bool :=
  Gen.primitives.all fun row => match primClass row.1 with
    | some _ => specTs row.1 == some row.2.1
    | none => true

/-- **every row of `impl_primitives!`** (as regenerated from the sources) maps its Rust type to the
TypeScript name that describes serde's JSON for it: ≤32-bit integers, `usize`/`isize` and floats ↦
`number`, 64/128-bit integers ↦ `bigint`, `bool` ↦ `boolean`, string-likes and `char` ↦ `string`,
`()` ↦ `null`. A proof over the complete finite table, re-checked whenever the table changes. -/
theorem C12_table : tableOKb = true := by decide +kernel

theorem C12_tableOK : TableOK := by
  intro row hmem hsome
  have h := List.all_eq_true.1 C12_table row hmem
  cases hc : primClass row.1 with
  | none => rw [hc] at hsome; cases hsome
  | some c => rw [hc] at h; exact beq_iff_eq.1 h

/-- no user types: the callbacks of the library-type model -/
def noNamedTy : Str → List Ts → Option Ts := fun _ _ => none
def noNamedSer : Str → List RTy → RVal → Option JVal := fun _ _ _ => none

/-- **C12 (soundness)**: for every library type expression built from the primitives, `Option`,
`Vec`, slices, sets, arrays of EVERY length, tuples of every arity, maps, `Result`, ranges and the
wrappers, nested to ANY depth, and every value of it (without non-finite floats, `PhantomData`
and dangling `Weak`, see the counter-examples below): the JSON serde_json emits inhabits the
TypeScript type ts-rs reports. Holds for every value of the array/tuple limit. -/
theorem C12_sound (D : Decls) (limit : Nat) (t : RTy) (v : RVal) (T : Ts) (j : JVal)
    (hT : nameTyB limit noNamedTy t = some T) (hs : serB noNamedSer t v = some j)
    (hc : cleanV v = true) : Member D T j :=
  serB_sound D limit noNamedTy noNamedSer C12_tableOK
    (fun _ _ _ _ _ _ _ h _ _ => by simp [noNamedTy] at h) t v T j hT hs hc

/-- the same with user types plugged in: whatever is sound for the named types stays sound under
every library type constructor (this is how C01 uses C12) -/
theorem C12_sound_over (D : Decls) (limit : Nat) (nameN : Str → List Ts → Option Ts)
    (serN : Str → List RTy → RVal → Option JVal) (hN : NamedSound D limit nameN serN)
    (t : RTy) (v : RVal) (T : Ts) (j : JVal)
    (hT : nameTyB limit nameN t = some T) (hs : serB serN t v = some j) (hc : cleanV v = true) :
    Member D T j :=
  serB_sound D limit nameN serN C12_tableOK hN t v T j hT hs hc

/-- **arrays of every length**: a fixed-length tuple up to the limit, `Array<T>` beyond -/
theorem C12_array (limit n : Nat) (nameN : Str → List Ts → Option Ts) (t : RTy) :
    nameTyB limit nameN (.arr t n) =
      (nameTyB limit nameN t).map fun x => if n > limit then .array x else .tuple (List.replicate n x) := by
  simp [nameTyB]

/-- **transparent wrappers are their content** -/
theorem C12_wrapper (limit : Nat) (nameN : Str → List Ts → Option Ts) (k : WrapKind) (t : RTy) :
    nameTyB limit nameN (.wrap k t) = nameTyB limit nameN t := by simp [nameTyB]

/-! ## non-vacuity: a nested library type and a value of it -/
example : ∃ T j,
    nameTyB 64 noNamedTy (.map (.prim "String") (.option (.arr (.tuple [.prim "u64", .wrap .box (.prim "bool")]) 2))) = some T ∧
    serB noNamedSer (.map (.prim "String") (.option (.arr (.tuple [.prim "u64", .wrap .box (.prim "bool")]) 2)))
      (.map [(.str "k".toList, .some (.seq [.seq [.int 7, .bool true], .seq [.int 0, .bool false]])), (.str "n".toList, .none)]) = some j ∧
    Member [] T j := by
  -- the three primitives by `rfl`: `simp [primClass, serPrim]` would prove an equation for every row of the two tables
  have q1 : ∀ s, serB noNamedSer (.prim "String") (.str s) = some (.str s) := fun _ => by rw [serB_prim]; rfl
  have q2 : ∀ i, 0 ≤ i → i ≤ 18446744073709551615 → serB noNamedSer (.prim "u64") (.int i) = some (.int i) :=
    fun _ h1 h2 => by rw [serB_prim]; exact if_pos ⟨h1, h2, .inl rfl⟩
  have q3 : ∀ b, serB noNamedSer (.prim "bool") (.bool b) = some (.bool b) := fun _ => by rw [serB_prim]; rfl
  have hs : serB noNamedSer (.map (.prim "String") (.option (.arr (.tuple [.prim "u64", .wrap .box (.prim "bool")]) 2)))
      (.map [(.str "k".toList, .some (.seq [.seq [.int 7, .bool true], .seq [.int 0, .bool false]])), (.str "n".toList, .none)])
      = some (.obj [("k".toList, .arr [.arr [.int 7, .bool true], .arr [.int 0, .bool false]]), ("n".toList, .null)]) := by
    simp [serB, serAllB, serZipB, serMapB, q1, q2, q3, keyOfJson, bind, Option.bind]
  exact ⟨_, _, rfl, hs, C12_sound [] 64 _ _ _ _ rfl hs (by simp [cleanV, cleanVL, cleanVM])⟩

/-! ## rows/values where the property is FALSE of the unchanged tree (known findings) -/

/-- `PhantomData<T>` is reported as `T`, serde emits `null` -/
theorem C12_cex_phantom :
    nameTyB 64 noNamedTy (.wrap .phantom (.prim "u8")) = some .number ∧
    serB noNamedSer (.wrap .phantom (.prim "u8")) .phantom = some .null ∧
    Ts.memberb [] 10 .number .null = false := ⟨rfl, by simp [serB], rfl⟩

/-- a dangling `Weak<T>` serializes to `null`, the binding says `T` -/
theorem C12_cex_weak :
    nameTyB 64 noNamedTy (.wrap .weak (.prim "String")) = some .string ∧
    serB noNamedSer (.wrap .weak (.prim "String")) .weakDead = some .null := ⟨rfl, by simp [serB]⟩

/-- non-finite floats serialize to `null`, the binding says `number` -/
theorem C12_cex_nan :
    nameTyB 64 noNamedTy (.prim "f64") = some .number ∧
    serB noNamedSer (.prim "f64") .nonFinite = some .null := ⟨rfl, by rw [serB_prim]; rfl⟩

end TsRs
