import TsRsVerif.Lemmas.SpellingLemmas
import TsRsVerif.Lemmas.WalkFiles
/-!
# C06 — export results depend only on what was exported, not how or in what order

Proven here (over `Model/Export.lean`): the result of an export does not depend on *which entry
point* is used (`export` ≡ `export_into` the default directory — this is exactly what the pinned
snapshot violated and the `fix:` commit repaired), nor on *how the directory is spelled* (any two
spellings that `path::absolute` normalises alike drive the whole depth-first export identically),
because the registry key is always the normalised path and `absolute` is idempotent.
Order independence of the file *contents*, on the bytes and for whole histories, is `C06_history_order_independent`
(one file; a corollary of the refinement theorem `C05_history_canonical`) and `C06_directory_order_independent` (any number of
files, exports interleaved in any way: `Lemmas/HistoryMulti.lean`).
-/
namespace TsRs
open Export Path

/-- **entry-point independence**: `T::export()` does exactly what `export_into::<T>(default dir)`
(the unit of `export_all`) does — same file, same registry key, same outcome. -/
theorem C06_export_eq_export_into (u : Universe) (dod : Str) (w : World) (i : Nat) (t : TyInfo) (op : Str)
    (hu : u[i]? = some t) (ho : t.outputPath = some op) :
    runEntry u dod w (.export i) = some (exportInto w t dod) := by
  simp only [runEntry, hu, ho, exportInto_join w t dod op ho]

/-- **the registry key is a normal form**: normalising twice is normalising once -/
theorem C06_key_normal_form (cwd p q : Str) (hcwd : isAbsolute cwd = true) (h : absolute cwd p = .ok q) :
    absolute cwd q = .ok q := absolute_idem cwd p q hcwd h

/-- **spelling independence**: if two spellings `d`, `d'` of the export directory normalise alike
(`SameDir`), the whole `export_all_to` walk — file system, registry, visited set, outcome — is the
same, for every universe of types, every world and every root. -/
theorem C06_spelling_independent (u : Universe) (w : World) (d d' : Str) (i : Nat)
    (h : SameDir w.fs.cwd d d') :
    runEntry u "".toList w (.exportAllTo i d) = runEntry u "".toList w (.exportAllTo i d') := by
  simp only [runEntry]
  rw [exportRec_spelling u w.fs.cwd d d' h (u.length + 1) w [] i rfl]

/-- one export step under two spellings of the same path is the same step -/
theorem C06_step_spelling (w : World) (t : TyInfo) (p p' : Str)
    (h : absolute (cwdStr w.fs) p = absolute (cwdStr w.fs) p') : exportTo w t p = exportTo w t p' := by
  simp [exportTo, h]

/-! ## the spellings of the property statement, for a concrete directory (by evaluation) -/
example : let cwd := "/home/u/proj".toList
    absolute cwd "./bindings/A.ts".toList = .ok "/home/u/proj/bindings/A.ts".toList ∧
    absolute cwd "bindings//A.ts".toList = .ok "/home/u/proj/bindings/A.ts".toList ∧
    absolute cwd "/home/u/proj/bindings/A.ts".toList = .ok "/home/u/proj/bindings/A.ts".toList ∧
    absolute cwd "x/../bindings/./A.ts".toList = .ok "/home/u/proj/bindings/A.ts".toList ∧
    absolute cwd "../proj/bindings/A.ts".toList = .ok "/home/u/proj/bindings/A.ts".toList := by lit_chars; decide +kernel

/-- **the result depends only on WHAT was exported**: two histories that export the same set of (well-formed, distinctly
named) texts into one path of a fresh process, in any two orders, both succeed at every step and end in the SAME file
system (byte for byte) and the same set of registered names. -/
theorem C06_history_order_independent (w : World) (path : Str) (h₁ h₂ : List GenT) (hperm : h₁.Perm h₂) (hne : h₁ ≠ [])
    (hok : ∀ x ∈ h₁, GenOK x) (hnd : (h₁.map (·.name)).Nodup) (hndI : (h₁.map (·.ident)).Nodup)
    (hp : w.poisoned = false) (hreg : regGet w.reg (regKey path) = none)
    (hc : ∃ text, (w.fs.fileCreate path text).isSome) :
    ∃ w₁ w₂, runAll path w h₁ = (w₁, true) ∧ runAll path w h₂ = (w₂, true) ∧ w₁.fs = w₂.fs ∧
      ∀ n, (∃ names, regGet w₁.reg (regKey path) = some names ∧ n ∈ names) ↔ (∃ names, regGet w₂.reg (regKey path) = some names ∧ n ∈ names) := by
  have hg : GensOK h₁ := ⟨hok, hnd, hndI⟩
  obtain ⟨w₁, l₁, r₁, _, hr₁, hf₁, n₁, hn₁, hm₁⟩ := history_canonical w path h₁ hne hg hp hreg hc
  obtain ⟨w₂, l₂, r₂, _, hr₂, hf₂, n₂, hn₂, hm₂⟩ := history_canonical w path h₂ (fun e => hne (by subst e; exact hperm.eq_nil))
    (hg.perm hperm) hp hreg hc
  refine ⟨w₁, w₂, r₁, r₂, ?_, fun n => ?_⟩
  · rw [hf₁, hf₂, canonSt_perm _ _ hperm hnd, Option.some.inj (hr₁.symm.trans hr₂)]
  · simp only [hn₁, hn₂, Option.some.injEq, exists_eq_left', hm₁ n, hm₂ n, (hperm.map _).mem_iff]

/-- **interleaved exports into several files**: `slots` are the files (normalised path, location), an operation is (file, generated
text). From a process that has written none of them, every step returns `Ok`; afterwards every file that received exports holds
exactly the canonical text of ITS exports, every other location is as before, the lock is not poisoned. -/
theorem C06_interleaved_history (slots : List Slot) (w : World) (ops : List Op) (hs : SlotsOK w.fs slots) (hok : OpsOK slots ops)
    (hp : w.poisoned = false) (hreg : ∀ s ∈ slots, regGet w.reg (regKey s.1) = none) :
    ∃ w', runOps slots w ops = (w', true) ∧ w'.poisoned = false ∧
      (∀ (i : Nat) s, slots[i]? = some s → gensAt i ops ≠ [] → w'.fs.lookup s.2 = some (.file (fileText (canonSt (gensAt i ops))))) ∧
      (∀ l, (∀ (i : Nat) s, slots[i]? = some s → s.2 = l → gensAt i ops = []) → w'.fs.lookup l = w.fs.lookup l) := by
  obtain ⟨w', hr, hi⟩ := multi_history slots w ops hs hok hp hreg
  exact ⟨w', hr, hi.alive, hi.files, hi.untouched⟩

/-- **the directory depends only on WHAT was exported WHERE**: any two interleavings of the same operations over any number of
files both succeed and end in file systems that agree at every location. -/
theorem C06_directory_order_independent (slots : List Slot) (w : World) (ops₁ ops₂ : List Op) (hperm : ops₁.Perm ops₂)
    (hs : SlotsOK w.fs slots) (hok : OpsOK slots ops₁)
    (hp : w.poisoned = false) (hreg : ∀ s ∈ slots, regGet w.reg (regKey s.1) = none) :
    ∃ w₁ w₂, runOps slots w ops₁ = (w₁, true) ∧ runOps slots w ops₂ = (w₂, true) ∧
      w₁.fs.cwd = w₂.fs.cwd ∧ ∀ l, w₁.fs.lookup l = w₂.fs.lookup l := by
  obtain ⟨w₁, r₁, i₁⟩ := multi_history slots w ops₁ hs hok hp hreg
  obtain ⟨w₂, r₂, i₂⟩ := multi_history slots w ops₂ hs (opsOK_perm slots hperm hok) hp hreg
  exact ⟨w₁, w₂, r₁, r₂, by rw [i₁.cwd, i₂.cwd], minv_same_perm w.fs slots _ _ hperm hok.names w₁ w₂ i₁ i₂⟩

/-! non-vacuity: two files in a concrete file system, three interleaved exports -/
def exFs : Fs := { nodes := [(["w".toList], .dir), (["w".toList, "out".toList], .dir)], cwd := ["w".toList] }
def exSlots : List Slot := [("/w/out/shared.ts".toList, ["w".toList, "out".toList, "shared.ts".toList]), ("/w/out/Other.ts".toList, ["w".toList, "out".toList, "Other.ts".toList])]
def exA : GenT := ⟨"Alpha".toList, "Alpha".toList, [], "export type Alpha = { a: number, };".toList⟩
def exB : GenT := ⟨"Beta".toList, "Beta<T>".toList, [("./Other".toList, ["Other".toList])], "export type Beta<T> = { o: Other, t: T, };".toList⟩
def exO : GenT := ⟨"Other".toList, "Other".toList, [], "export type Other = string;".toList⟩

example : SlotsOK exFs exSlots := by
  unfold exFs exSlots; lit_chars
  refine ⟨by decide +kernel, by decide +kernel, by decide +kernel, by decide +kernel, ?_, ?_⟩
  · intro i j a b hi hj h
    rcases i with _ | _ | i <;> rcases j with _ | _ | j <;> cases hi <;> cases hj <;> first | rfl | exact absurd h (by decide +kernel)
  · intro i j a b hi hj h
    rcases i with _ | _ | i <;> rcases j with _ | _ | j <;> cases hi <;> cases hj <;> first | rfl | exact absurd h (by decide +kernel)
#guard (runOps exSlots { fs := exFs, reg := [] } [(0, exB), (1, exO), (0, exA)]).2
#guard ((runOps exSlots { fs := exFs, reg := [] } [(0, exB), (1, exO), (0, exA)]).1.fs.lookup ["w".toList, "out".toList, "shared.ts".toList])
  == ((runOps exSlots { fs := exFs, reg := [] } [(0, exA), (0, exB), (1, exO)]).1.fs.lookup ["w".toList, "out".toList, "shared.ts".toList])

/-- **histories through the entry point `export_to`, whatever the spelling and whatever directories exist**: in a process that has
not written the file yet, two sequences of `export_to` calls whose generated texts are permutations of one another — each call with
its OWN spelling of the path (relative, absolute, `./`, `..` segments: anything `path::absolute` normalises to `path`) — both return
`Ok` at every step and end in the SAME file system byte for byte. The first call creates the missing parent directories
(`create_dir_all`, result `fsD`); later calls find them (`create_dir_all` is then the identity, also after the file exists:
`Fs.createDirAll_idem`). The only thing assumed about the target is that it is not a directory (`hfile`): once `create_dir_all` has
run, the normal form `/n₁/../nₖ/name` resolves to `[n₁, .., nₖ, name]` below an existing directory and `File::create` succeeds
(`exportTo_target_creatable`, from `absolute_shape`). -/
theorem C06_export_to_histories (w : World) (path par : Str) (fsD : Fs) (s₁ s₂ : List (Str × GenT))
    (hperm : (s₁.map (·.2)).Perm (s₂.map (·.2))) (hne : s₁ ≠ [])
    (habs₁ : ∀ s ∈ s₁, Path.absolute (cwdStr w.fs) s.1 = .ok path) (habs₂ : ∀ s ∈ s₂, Path.absolute (cwdStr w.fs) s.1 = .ok path)
    (hpar : Path.parent path = some par) (hd : w.fs.createDirAll par = some fsD)
    (hok : ∀ x ∈ s₁.map (·.2), GenOK x) (hnd : ((s₁.map (·.2)).map (·.name)).Nodup) (hndI : ((s₁.map (·.2)).map (·.ident)).Nodup)
    (hp : w.poisoned = false) (hreg : regGet w.reg (regKey path) = none)
    (hfile : ∀ loc, fsD.resolve path = some loc → fsD.lookup loc ≠ some .dir) :
    ∃ w₁ w₂, runAllTo w s₁ = (w₁, true) ∧ runAllTo w s₂ = (w₂, true) ∧ w₁.fs = w₂.fs := by
  have hne₂ : s₂ ≠ [] := fun e => hne (by subst e; simpa using hperm.eq_nil)
  have hg : GensOK (s₁.map (·.2)) := ⟨hok, hnd, hndI⟩
  obtain ⟨w₁, l₁, r₁, hr₁, hf₁⟩ := historyTo_canonical w path par fsD s₁ hne habs₁ hpar hd hg hp hreg hfile
  obtain ⟨w₂, l₂, r₂, hr₂, hf₂⟩ := historyTo_canonical w path par fsD s₂ hne₂ habs₂ hpar hd (hg.perm hperm) hp hreg hfile
  exact ⟨w₁, w₂, r₁, r₂, by rw [hf₁, hf₂, canonSt_perm _ _ hperm hnd, Option.some.inj (hr₁.symm.trans hr₂)]⟩

/-- … and what that file system is: the directories `create_dir_all` made, plus exactly the canonical file of the exported texts -/
theorem C06_export_to_history_canonical (w : World) (path par : Str) (fsD : Fs) (p0 : Str) (g : GenT) (rest : List (Str × GenT))
    (habs : ∀ s ∈ (p0, g) :: rest, Path.absolute (cwdStr w.fs) s.1 = .ok path) (hpar : Path.parent path = some par)
    (hd : w.fs.createDirAll par = some fsD)
    (hok : ∀ x ∈ g :: rest.map (·.2), GenOK x) (hnd : ((g :: rest.map (·.2)).map (·.name)).Nodup)
    (hndI : ((g :: rest.map (·.2)).map (·.ident)).Nodup)
    (hp : w.poisoned = false) (hreg : regGet w.reg (regKey path) = none)
    (hfile : ∀ loc, fsD.resolve path = some loc → fsD.lookup loc ≠ some .dir) :
    ∃ w' loc, runAllTo w ((p0, g) :: rest) = (w', true) ∧ fsD.resolve path = some loc ∧
      w'.fs = fsD.set loc (.file (fileText (canonSt (g :: rest.map (·.2))))) :=
  historyTo_canonical w path par fsD ((p0, g) :: rest) (by simp) habs hpar hd ⟨hok, hnd, hndI⟩ hp hreg hfile

/-! non-vacuity: no `out/deep` directory yet; three spellings of one file -/
def exFs0 : Fs := { nodes := [(["w".toList], .dir)], cwd := ["w".toList] }
def exSp1 : List (Str × GenT) := [("out/deep/shared.ts".toList, exB), ("/w/out/./deep/shared.ts".toList, exA)]
def exSp2 : List (Str × GenT) := [("./out/x/../deep/shared.ts".toList, exA), ("out/deep/shared.ts".toList, exB)]
example : (∀ s ∈ exSp1 ++ exSp2, Path.absolute (cwdStr exFs0) s.1 = .ok "/w/out/deep/shared.ts".toList)
    ∧ Path.parent "/w/out/deep/shared.ts".toList = some "/w/out/deep".toList
    ∧ (exFs0.createDirAll "/w/out/deep".toList).isSome := by unfold exSp1 exSp2 exFs0; lit_chars; decide +kernel
#guard (runAllTo { fs := exFs0, reg := [] } exSp1).2 && (runAllTo { fs := exFs0, reg := [] } exSp2).2
#guard ((runAllTo { fs := exFs0, reg := [] } exSp1).1.fs.lookup ["w".toList, "out".toList, "deep".toList, "shared.ts".toList])
  == ((runAllTo { fs := exFs0, reg := [] } exSp2).1.fs.lookup ["w".toList, "out".toList, "deep".toList, "shared.ts".toList])

/-- **several files through `export_to`, directories created on the way**: `slots` are the target files (directory names below
the root, file name), a step is (file, generated text, spelling of the path). From a process that has written none of them — and
whatever directories exist: each step runs `create_dir_all` for its own file — every step of ANY interleaving returns `Ok`, and
afterwards every file that received exports holds exactly the canonical text of ITS exports, every other regular file is as it was,
no target has become a directory (`Lemmas/HistoryToMulti.lean`: the invariant `TInv` is preserved by `export_to`, using what
`create_dir_all` changes — `Fs.createDirAllAux_lookup` — and when it succeeds — `Fs.createDirAllAux_succeeds`). -/
theorem C06_export_to_interleaved (slots : List TSlot) (w : World) (ops : List TOp) (hs : TSlotsOK w.fs slots)
    (hok : TOpsOK slots (cwdStr w.fs) ops) (hp : w.poisoned = false) (hreg : ∀ s ∈ slots, regGet w.reg (regKey s.path) = none) :
    ∃ w', runOpsTo slots w ops = (w', true) ∧
      (∀ (i : Nat) s, slots[i]? = some s → gensAt i (ops.map (·.1)) ≠ [] →
        w'.fs.lookup s.loc = some (.file (fileText (canonSt (gensAt i (ops.map (·.1))))))) ∧
      (∀ l c, (∀ (i : Nat) s, slots[i]? = some s → s.loc = l → gensAt i (ops.map (·.1)) = []) →
        (w'.fs.lookup l = some (.file c) ↔ w.fs.lookup l = some (.file c))) := by
  obtain ⟨w', hr, hinv⟩ := tmulti_history slots w ops hs hok hp hreg
  exact ⟨w', hr, hinv.files, hinv.others⟩

/-- … and the result depends only on what was exported where: two interleavings of the same steps (any order, any spellings; the
directories are created by whichever step comes first) leave the same regular files with the same contents -/
theorem C06_export_to_directory_independent (slots : List TSlot) (w : World) (ops₁ ops₂ : List TOp) (hperm : ops₁.Perm ops₂)
    (hs : TSlotsOK w.fs slots) (hok : TOpsOK slots (cwdStr w.fs) ops₁)
    (hp : w.poisoned = false) (hreg : ∀ s ∈ slots, regGet w.reg (regKey s.path) = none) :
    ∃ w₁ w₂, runOpsTo slots w ops₁ = (w₁, true) ∧ runOpsTo slots w ops₂ = (w₂, true) ∧
      ∀ l c, w₁.fs.lookup l = some (.file c) ↔ w₂.fs.lookup l = some (.file c) := by
  obtain ⟨w₁, r₁, i₁⟩ := tmulti_history slots w ops₁ hs hok hp hreg
  obtain ⟨w₂, r₂, i₂⟩ := tmulti_history slots w ops₂ hs (topsOK_perm slots _ hperm hok) hp hreg
  exact ⟨w₁, w₂, r₁, r₂, tinv_same_files_perm w.fs slots _ _ (hperm.map _) hok.names w₁ w₂ i₁ i₂⟩

/-! non-vacuity: two files in two directories that do not exist yet, three steps with three spellings -/
instance : DecidablePred Path.CompName := fun n => by unfold Path.CompName; infer_instance
def exTSlots : List TSlot := [⟨["w".toList, "out".toList, "deep".toList], "shared.ts".toList⟩, ⟨["w".toList, "out".toList], "Other.ts".toList⟩]
def exTOps : List TOp := [((0, exB), "out/deep/shared.ts".toList), ((1, exO), "/w/out/./Other.ts".toList), ((0, exA), "./out/x/../deep/shared.ts".toList)]
example : (∀ s ∈ exTSlots, ∀ n ∈ s.ns ++ [s.name], Path.CompName n) ∧ (∀ a ∈ exTSlots, ∀ b ∈ exTSlots, ∀ k, k ≤ b.ns.length → a.loc ≠ b.ns.take k)
    ∧ (∀ s ∈ exTSlots, exFs0.lookup s.loc ≠ some .dir)
    ∧ (∀ op ∈ exTOps, ∀ s, exTSlots[op.1.1]? = some s → Path.absolute (cwdStr exFs0) op.2 = .ok s.path) := by
  unfold exTSlots exTOps exFs0; lit_chars
  refine ⟨by decide +kernel, by decide +kernel, by decide +kernel, ?_⟩
  intro op hop s hs'
  simp only [List.mem_cons, List.not_mem_nil, or_false] at hop
  rcases hop with rfl | rfl | rfl <;> simp at hs' <;> subst hs' <;> decide +kernel
#guard (runOpsTo exTSlots { fs := exFs0, reg := [] } exTOps).2
#guard ((runOpsTo exTSlots { fs := exFs0, reg := [] } exTOps).1.fs.lookup ["w".toList, "out".toList, "deep".toList, "shared.ts".toList])
  == ((runOpsTo exTSlots { fs := exFs0, reg := [] } exTOps.reverse).1.fs.lookup ["w".toList, "out".toList, "deep".toList, "shared.ts".toList])

/-- **exporting a type again changes nothing — which entry point exported what does not matter**: in a history over several files some
steps export something new (`news`, in order), the others repeat an earlier export of the same type into the same file (what happens
when a type is first exported alone and later reached by `export_all`, or when two `export_all`s share a dependency), through any
spelling of the path. Every step returns `Ok`, and the history ends in the invariant of the history WITHOUT the repeats: each file
holds the canonical text of the types exported into it, once each; nothing is lost, nothing is written twice
(`tmulti_repeats`: a repeated step finds the type in the registry and leaves the file alone). -/
theorem C06_repeated_exports_are_noops (slots : List TSlot) (w : World) (ops : List TOp) (news : List Op)
    (hs : TSlotsOK w.fs slots) (hd : Dedup [] ops news)
    (hr : ∀ op ∈ ops, op.1.1 < slots.length)
    (hsp : ∀ op ∈ ops, ∀ s, slots[op.1.1]? = some s → Path.absolute (cwdStr w.fs) op.2 = .ok s.path)
    (hg : ∀ op ∈ news, GenOK op.2)
    (hnm : ∀ i, ((gensAt i news).map (·.name)).Nodup) (hid : ∀ i, ((gensAt i news).map (·.ident)).Nodup)
    (hp : w.poisoned = false) (hreg : ∀ s ∈ slots, regGet w.reg (regKey s.path) = none) :
    ∃ w', runOpsTo slots w ops = (w', true) ∧ TInv w.fs slots news w' := by
  simpa using tmulti_repeats w.fs slots hs hd w (tinv_init slots w hs hp hreg) hr hsp (opsGensOK_of hg hnm hid)

/-! non-vacuity: `Beta` into `shared.ts`, `Other`, `Beta` AGAIN through another spelling, then `Alpha` into `shared.ts` -/
def exRepOps : List TOp := [((0, exB), "out/deep/shared.ts".toList), ((1, exO), "/w/out/./Other.ts".toList),
  ((0, exB), "./out/x/../deep/shared.ts".toList), ((0, exA), "out/deep/shared.ts".toList)]
example : Dedup [] exRepOps [(0, exB), (1, exO), (0, exA)] :=
  Dedup.new (Dedup.new (Dedup.rep (by simp [gensAt]) (Dedup.new Dedup.nil)))
#guard (runOpsTo exTSlots { fs := exFs0, reg := [] } exRepOps).2
#guard ((runOpsTo exTSlots { fs := exFs0, reg := [] } exRepOps).1.fs.lookup ["w".toList, "out".toList, "deep".toList, "shared.ts".toList])
  == some (.file (fileText (canonSt [exB, exA])))

/-- **any number of `export_all` calls in one process**: each call walks from its root with a fresh `seen` set, so a type reachable
from two roots is exported twice. Whenever the calls succeed, every target file holds exactly the canonical text of the types reachable
from ANY of the roots that belong there — once each, in name order, whatever the order of the calls and of the walks — and every other
regular file is as it was (`walks_seq`: the calls are one sequence of `export_into` steps with repeats; `tmulti_repeats`). -/
theorem C06_export_all_sequences (u : Universe) (slots : List TSlot) (dir : Str) (gen : Nat → GenT) (rel : Nat → Str) (slotOf : Nat → Nat)
    (fuel : Nat) (w w' : World) (roots : List Nat) (h : Walks u dir fuel w roots w')
    (htab : ∀ j, (∃ r ∈ roots, Reach u r j) → TableOK u slots dir gen rel slotOf j)
    (hs : TSlotsOK w.fs slots)
    (hsp : ∀ j, (∃ r ∈ roots, Reach u r j) → ∀ s, slots[slotOf j]? = some s → Path.absolute (cwdStr w.fs) (Path.join dir (rel j)) = .ok s.path)
    (hgen : ∀ j, (∃ r ∈ roots, Reach u r j) → GenOK (gen j))
    (hname : ∀ j j', (∃ r ∈ roots, Reach u r j) → (∃ r ∈ roots, Reach u r j') → slotOf j = slotOf j' → (gen j).name = (gen j').name → j = j')
    (hident : ∀ j j', (∃ r ∈ roots, Reach u r j) → (∃ r ∈ roots, Reach u r j') → slotOf j = slotOf j' → (gen j).ident = (gen j').ident → j = j')
    (hp : w.poisoned = false) (hreg : ∀ s ∈ slots, regGet w.reg (regKey s.path) = none) :
    ∃ news : List Nat, news.Nodup ∧ (∀ j, j ∈ news ↔ ∃ r ∈ roots, Reach u r j) ∧
      TInv w.fs slots (news.map fun j => (slotOf j, gen j)) w' := by
  obtain ⟨os, hrun, hmem⟩ := walks_seq u dir fuel h
  obtain ⟨w'', hrun', hinv⟩ := runInto_repeats u slots dir gen rel slotOf os w _ (fun j hj => (hmem j).mp hj) htab hs hsp hgen hname hident
    hp hreg
  cases hrun.symm.trans hrun'
  exact ⟨firstNew [] os, firstNew_nodup os [], fun j => by rw [firstNew_mem]; simp [hmem j], hinv⟩

/-! non-vacuity: two roots with a common dependency that shares its file with the second root -/
def exMGen : Nat → GenT := fun j => if j = 0 then exA else if j = 1 then exB else exO
def exMRel : Nat → Str := fun j => if j = 2 then "Other.ts".toList else "deep/shared.ts".toList
def exMU : Universe := [0, 1, 2].map fun j => { ident := (exMGen j).ident, outputPath := some (exMRel j), text := .ok (genText (exMGen j)), deps := if j = 2 then [] else [2] }
def exMW : World := { fs := exFs0, reg := [] }
def exMAfter (roots : List Nat) : Option World := roots.foldl (fun ow r => ow.bind fun w => (exportRec exMU 8 w [] "./out".toList r).bind fun x =>
  if x.2.2 == Outcome.ok then some x.1 else none) (some exMW)
#guard ((exMAfter [0, 1]).bind fun w => w.fs.lookup ["w".toList, "out".toList, "deep".toList, "shared.ts".toList]) == some (.file (fileText (canonSt [exA, exB])))
#guard ((exMAfter [1, 0]).bind fun w => w.fs.lookup ["w".toList, "out".toList, "deep".toList, "shared.ts".toList]) == some (.file (fileText (canonSt [exA, exB])))
#guard ((exMAfter [1, 0]).bind fun w => w.fs.lookup ["w".toList, "out".toList, "Other.ts".toList]) == some (.file (fileText (canonSt [exO])))

/-! ## the defect of the pinned snapshot, as a counter-example: the key `export()` used -/

/-- before the fix `export()` keyed the registry by the un-normalised path: as `PathBuf`s the two
spellings of one file are different keys -/
theorem C06_old_cex_keys_differ :
    regKey "./bindings/shared.ts".toList ≠ regKey "/w/bindings/shared.ts".toList := by lit_chars; decide +kernel

end TsRs
