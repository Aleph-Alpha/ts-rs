import TsRsVerif.Lemmas.HistoryToMulti
import TsRsVerif.Lemmas.WalkSeq
import TsRsVerif.Lemmas.LitChars
/-!
# C17 — export failures are returned as errors and do not poison later exports

Theorems over `Model/Export.lean` (`exportTo` = `export_to`, the unit every entry point is a
sequence of; `exportInto` = `export_into`).  The model is tied to export.rs / path.rs by the
obstacle histories of `tools/props/c17.py`, run on the compiled universe and on this model.
-/
namespace TsRs
open Export Fs

/-- **a failed `export_to` step leaves everything but (newly created) directories untouched**:
the registry is unchanged (the failure is *not recorded as done*), the lock is not poisoned, and the
regular files of the file system are exactly what they were. For every world, type and path. -/
theorem C17_failed_step_untouched (w w' : World) (t : TyInfo) (p : Str) (e : ExportErr)
    (h : exportTo w t p = (w', .err e)) :
    w'.reg = w.reg ∧ w'.poisoned = w.poisoned ∧ FilesEq w.fs w'.fs := by
  rcases exportTo_cases w t p with ⟨e', h1⟩ | ⟨path, text, fs', _, _, hfs, h1⟩
  · rw [h1] at h; cases h; exact ⟨rfl, rfl, FilesEq.refl _⟩
  · rw [h1] at h
    rw [exportAndMerge_err _ _ _ _ _ _ h]
    rcases hfs with ⟨_, rfl⟩ | ⟨par, _, hc⟩
    · exact ⟨rfl, rfl, FilesEq.refl _⟩
    · exact ⟨rfl, rfl, (createDirAll_frame _ _ _ hc).1⟩

/-- the same for `export_into` (non-exportable type, path climbing above `/`, I/O obstacle) -/
theorem C17_failed_export_into_untouched (w w' : World) (t : TyInfo) (dir : Str) (e : ExportErr)
    (h : exportInto w t dir = (w', .err e)) :
    w'.reg = w.reg ∧ w'.poisoned = w.poisoned ∧ FilesEq w.fs w'.fs := by
  cases ho : t.outputPath with
  | none => simp [exportInto, ho] at h; obtain ⟨h1, _⟩ := h; subst h1; exact ⟨rfl, rfl, FilesEq.refl _⟩
  | some op => rw [exportInto_join w t dir op ho] at h; exact C17_failed_step_untouched w w' t _ e h

/-- **errors, not panics — non-exportable root**: returns `CannotBeExported`, world unchanged -/
theorem C17_non_exportable (w : World) (t : TyInfo) (dir : Str) (h : t.outputPath = none) :
    exportInto w t dir = (w, .err .cannotBeExported) := by
  simp [exportInto, h]

/-- **errors, not panics — path climbing above `/`** (and any other `absolute` failure) -/
theorem C17_climb_is_error (w : World) (t : TyInfo) (dir op : Str) (e : ExportErr)
    (ho : t.outputPath = some op) (ha : Path.absolute (cwdStr w.fs) (Path.join dir op) = .error e) :
    exportInto w t dir = (w, .err e) := by
  simp [exportInto, ho, ha]

/-- a `..` that would pop the root makes `absolute` fail (the behaviour after the `fix:` commit;
    before it the result was the *relative* path `x.ts`) -/
theorem C17_pop_root_is_error :
    Path.absolute "/w".toList "../../x.ts".toList = .error .cannotBeExported ∧
    Path.absolute "/w".toList "../x.ts".toList = .ok "/x.ts".toList := by lit_chars; decide +kernel

/-- **the only source of a panic** in an export step on an unpoisoned registry is `merge` hitting one
of its `expect`/`unwrap`s on the existing file's content; in particular the first write of a file
never panics. -/
theorem C17_panic_only_from_merge (w w' : World) (path name text : Str)
    (hp : w.poisoned = false) (h : exportAndMerge w path name text = (w', .panic)) :
    ∃ names loc orig why, regGet w.reg (regKey path) = some names ∧
      w.fs.openRead path = some (loc, orig) ∧ Merge.merge orig text = .panic why := by
  rcases exportAndMerge_cases w path name text with ⟨_, h1⟩ | h1 | h1 | ⟨_, _, h1⟩ | ⟨l, c, _, _, h1⟩
  · rw [hp] at h1; simp at h1
  · rw [h1] at h; simp at h
  · rw [h1] at h; simp at h
  · exact h1
  · rw [h1] at h; simp at h

/-- a failed step is **not recorded as done**: a retry sees the registry of before the failure -/
theorem C17_not_recorded (w w' : World) (t : TyInfo) (p : Str) (e : ExportErr) (k : List Comp)
    (h : exportTo w t p = (w', .err e)) : regGet w'.reg k = regGet w.reg k := by
  rw [(C17_failed_step_untouched w w' t p e h).1]

/-! ## non-vacuity: a concrete failing step (the parent component is a regular file) -/
example :
    let fs : Fs := { nodes := [(["w".toList], .dir), (["w".toList, "bindings".toList], .file "i am a file".toList)], cwd := ["w".toList] }
    let w : World := { fs := fs, reg := [] }
    let t : TyInfo := { ident := "A".toList, outputPath := some "A.ts".toList, text := .ok "x\n\nexport type A = 1;\n".toList, deps := [] }
    (exportInto w t "./bindings".toList).2 = .err .io := by lit_chars; decide +kernel

/-- **`export_all` returns the first failure and exports nothing after it**: a walk that returns an error has exactly the effect
of `export_into` for a duplicate-free list of types, each returning `Ok`, followed by ONE `export_into` that returns that very
error — the error of a dependency is never replaced by the success of a later sibling, nothing is written after it — and that last
step left the registry, the lock and every regular file as they were (`Lemmas/WalkSeq.lean`: `exportRec_steps`; for any dependency graph, any order of
the dependency lists, any obstacle). The converse for `Ok` is `C11_export_all_is_a_sequence`: every step returned `Ok`. -/
theorem C17_walk_returns_first_failure (u : Universe) (fuel : Nat) (w w' : World) (dir : Str) (i : Nat) (seen' : List Nat) (e : ExportErr)
    (h : exportRec u fuel w [] dir i = some (w', seen', .err e)) :
    ∃ (order : List Nat) (j : Nat) (t : TyInfo) (w1 : World), order.Nodup ∧ j ∉ order ∧
      runInto u dir w order = (w1, true) ∧ u[j]? = some t ∧ exportInto w1 t dir = (w', .err e) ∧
      w'.reg = w1.reg ∧ w'.poisoned = w1.poisoned ∧ FilesEq w1.fs w'.fs := by
  obtain ⟨order, _, hn, _, hran⟩ := exportRec_steps u dir fuel w [] i w' seen' (.err e) h
  obtain ⟨_, init, j, t, w1, rfl, hr, hu, he⟩ := hran.resolve_left (fun h => by simp at h)
  rw [List.nodup_append] at hn
  exact ⟨init, j, t, w1, hn.1, fun hj => hn.2.2 j hj j (by simp) rfl, hr, hu, he, C17_failed_export_into_untouched w1 w' t dir e he⟩

/-! non-vacuity: the FIRST of two dependencies cannot be written (its target is a directory): the walk returns the I/O error and the
second dependency's file is not written -/
def exFU : Universe := [
  { ident := "Root".toList, outputPath := some "Root.ts".toList, text := .ok "// r\n\nexport type Root = 1;\n".toList, deps := [1, 2] },
  { ident := "Early".toList, outputPath := some "Early.ts".toList, text := .ok "// e\n\nexport type Early = 1;\n".toList, deps := [] },
  { ident := "Late".toList, outputPath := some "Late.ts".toList, text := .ok "// l\n\nexport type Late = 1;\n".toList, deps := [] }]
def exFW : World := { fs := { nodes := [(["w".toList], .dir), (["w".toList, "out".toList], .dir), (["w".toList, "out".toList, "Early.ts".toList], .dir)], cwd := ["w".toList] }, reg := [] }
#guard ((exportRec exFU 8 exFW [] "./out".toList 0).map fun r => (r.2.2 == Outcome.err .io, r.1.fs.lookup ["w".toList, "out".toList, "Late.ts".toList] == none,
  (r.1.fs.lookup ["w".toList, "out".toList, "Root.ts".toList]).isSome)) == some (true, true, true)

/-- `w` with another file system: registry and lock stay -/
def withFs (w : World) (fs : Fs) : World := { w with fs := fs }

/-- **a failed export is not recorded as done; after the obstacle is removed the retry — and everything after it — gives the
directory contents of the history in which the failure never happened.** `w₁`: the world after any history `done` over any number of
files (`TInv`: each file holds the canonical text of its exports). Under ANY obstacle (`wobs`: an arbitrary file system; the process
state — registry, lock — is that of `w₁`) some `export_to` returns an error (`wf`). `w₂` is the failed world with the obstacle gone:
its file system again meets the invariant's clauses (the files of `done` as they were, no regular file on the way to a target, no
target a directory — directories the failed step created may stay); registry and lock are what the failed step left. Then the rest
of the history, the retry included, returns `Ok` at every step from `w₂` exactly as it does from `w₁`, both end in the invariant of
`done ++ rest`, and every regular file has the same content in both. -/
theorem C17_retry_as_if_never_failed (fs0 : Fs) (slots : List TSlot) (hs : TSlotsOK fs0 slots) (done : List Op) (w₁ wobs wf w₂ : World)
    (t : TyInfo) (p : Str) (e : ExportErr) (rest : List TOp)
    (h₁ : TInv fs0 slots done w₁)
    (hobsR : wobs.reg = w₁.reg) (hobsP : wobs.poisoned = w₁.poisoned)
    (hfail : exportTo wobs t p = (wf, .err e))
    (h2R : w₂.reg = wf.reg) (h2P : w₂.poisoned = wf.poisoned)
    (h2fs : TInv fs0 slots done (withFs w₁ w₂.fs))
    (hr : ∀ op ∈ rest, op.1.1 < slots.length)
    (hsp : ∀ op ∈ rest, ∀ s, slots[op.1.1]? = some s → Path.absolute (cwdStr fs0) op.2 = .ok s.path)
    (hg : ∀ x, (∃ op ∈ rest, op.1.2 = x) ∨ (∃ op ∈ done, op.2 = x) → GenOK x)
    (hnm : ∀ i, ((gensAt i (done ++ rest.map (·.1))).map (·.name)).Nodup)
    (hid : ∀ i, ((gensAt i (done ++ rest.map (·.1))).map (·.ident)).Nodup) :
    ∃ w' w'', runOpsTo slots w₂ rest = (w', true) ∧ runOpsTo slots w₁ rest = (w'', true) ∧
      TInv fs0 slots (done ++ rest.map (·.1)) w' ∧
      (∀ l c, w'.fs.lookup l = some (.file c) ↔ w''.fs.lookup l = some (.file c)) := by
  -- the failed step left registry and lock as they were, and `TInv` speaks of nothing else but the file system
  obtain ⟨hfr, hfp, _⟩ := C17_failed_step_untouched wobs wf t p e hfail
  have h₂ : TInv fs0 slots done w₂ := by
    have : w₂ = withFs w₁ w₂.fs := by
      cases w₂
      simp only at h2R h2P
      simp only [withFs, h2R, hfr, hobsR, h2P, hfp, hobsP]
    rw [this]; exact h2fs
  have hok : OpsGensOK (done ++ rest.map (·.1)) := opsGensOK_of (List.forall_mem_append.mpr
    ⟨fun op h => hg _ (.inr ⟨op, h, rfl⟩), List.forall_mem_map.mpr fun o ho => hg _ (.inl ⟨o, ho, rfl⟩)⟩) hnm hid
  obtain ⟨w', r', i'⟩ := tmulti_repeats fs0 slots hs (dedup_all_new rest done) w₂ h₂ hr hsp hok
  obtain ⟨w'', r'', i''⟩ := tmulti_repeats fs0 slots hs (dedup_all_new rest done) w₁ h₁ hr hsp hok
  exact ⟨w', w'', r', r'', i', tinv_same_files_perm fs0 slots _ _ (.refl _) hnm w' w'' i' i''⟩

/-! non-vacuity: two files; after one export the next target is a DIRECTORY; the step fails with an I/O error, registry untouched;
with the directory gone the retry and a further export into the first file succeed and leave what the failure-free history leaves -/
def exRA : GenT := ⟨"Alpha".toList, "Alpha".toList, [], "export type Alpha = { a: number, };".toList⟩
def exRB : GenT := ⟨"Beta".toList, "Beta".toList, [("../Other".toList, ["Other".toList])], "export type Beta = { o: Other, };".toList⟩
def exRO : GenT := ⟨"Other".toList, "Other".toList, [], "export type Other = string;".toList⟩
def exRSlots : List TSlot := [⟨["w".toList, "out".toList, "deep".toList], "shared.ts".toList⟩, ⟨["w".toList, "out".toList], "Other.ts".toList⟩]
def exRW0 : World := { fs := { nodes := [(["w".toList], .dir)], cwd := ["w".toList] }, reg := [] }
def exRW1 : World := (runOpsTo exRSlots exRW0 [((0, exRB), "out/deep/shared.ts".toList)]).1
def exRObs : World := { exRW1 with fs := exRW1.fs.set ["w".toList, "out".toList, "Other.ts".toList] .dir }
def exRFail : World × Outcome := exportTo exRObs (tyOfGen exRO) "./out/Other.ts".toList
def exRRest : List TOp := [((1, exRO), "./out/Other.ts".toList), ((0, exRA), "/w/out/deep/../deep/shared.ts".toList)]
#guard exRFail.2 == .err .io && exRFail.1.reg == exRW1.reg && !exRFail.1.poisoned
#guard (runOpsTo exRSlots { exRFail.1 with fs := exRW1.fs } exRRest).2 && (runOpsTo exRSlots exRW1 exRRest).2
#guard [["w".toList, "out".toList, "deep".toList, "shared.ts".toList], ["w".toList, "out".toList, "Other.ts".toList]].all fun l =>
  ((runOpsTo exRSlots { exRFail.1 with fs := exRW1.fs } exRRest).1.fs.lookup l) == ((runOpsTo exRSlots exRW1 exRRest).1.fs.lookup l)
#guard ((runOpsTo exRSlots { exRFail.1 with fs := exRW1.fs } exRRest).1.fs.lookup ["w".toList, "out".toList, "deep".toList, "shared.ts".toList])
  == some (.file (fileText (canonSt [exRB, exRA])))

end TsRs
