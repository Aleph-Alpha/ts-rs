import TsRsVerif.Model.Deps
import TsRsVerif.Generated.Tables
import TsRsVerif.Lemmas.WalkOrder
import TsRsVerif.Props.C06
/-!
# C13 — bindings are a deterministic function of the source and configuration

The sources of nondeterminism are explicit in the model: the derive's dependency set is a LIST in
`Derive.itemDeps` whose order stands for the `HashSet` iteration order; everything printed goes
through ordered structures. Proven here: the functions that produce text do not look at that order
at all, the import block is invariant under permutation of the visited dependencies, and the
inventory of order- or environment-sensitive constructs of the sources equals the allow-list below.
-/
namespace TsRs
open Text Derive

/-- the allow-list: every `HashMap`/`HashSet`/`BTree*`/`TypeId`/environment/thread construct in the
two crates, with the reason it cannot influence the output.
* macros `HashMap` (attr/*.rs, lib.rs, utils.rs): `concrete` maps, only looked up by key;
* macros `HashSet` (deps.rs, lib.rs): the dependency set (order = model parameter π) and the set of
  used type parameters for the where-clause (order of bounds is not observable in the output);
* export.rs `HashMap`/`HashSet`/`Mutex`/`OnceLock`: the registry `EXPORT_PATHS` (looked up by key;
  serial order of whole steps = model parameter `sched`); `seen` set of the DFS (membership only);
* export.rs / lib.rs `BTreeMap`/`BTreeSet`: ordered by construction (plus the `impl TS` for them);
* `TypeId`: identity of instantiations (`seen`, self-import filter);
* `env::var`: `TS_RS_EXPORT_DIR` (configuration);
* lib.rs / serde_json.rs / tokio.rs `HashMap`/`HashSet`/`Mutex`: `impl TS for` those library types. -/
def orderAllowList : List (String × String × Nat) := [
  ("macros", "HashMap", 3),     -- attr/enum.rs 1, attr/struct.rs 1, lib.rs 1
  ("macros", "HashSet", 5),     -- deps.rs 4, lib.rs 1
  ("ts-rs", "BTreeMap", 4),     -- export.rs 3, lib.rs 1
  ("ts-rs", "BTreeSet", 3),     -- export.rs 2, lib.rs 1
  ("ts-rs", "HashMap", 7),      -- export.rs 1, lib.rs 4, serde_json.rs 2
  ("ts-rs", "HashSet", 4),      -- export.rs 3 (the `&mut HashSet` field of the visitor is a reference, not counted), lib.rs 1
  ("ts-rs", "Mutex", 3),        -- export.rs 1, lib.rs 1, tokio.rs 1
  ("ts-rs", "OnceLock", 2),     -- export.rs 2
  ("ts-rs", "TypeId", 5),       -- export.rs 3, lib.rs 2
  ("ts-rs", "env::var", 1)]     -- export.rs 1

/-- **inventory = allow-list** (re-proved against the regenerated inventory on every run: a new
hash container, environment read or thread primitive anywhere in the two crates breaks it; the totals are per crate, so moving code
between the files of a crate does not) -/
theorem C13_inventory : Gen.orderInventory = orderAllowList := by decide +kernel

/-- **the names a file imports are order-independent**: `generate_imports` first collects the visited
dependencies into a `BTreeMap` keyed by name; the sorted key list is the same for every permutation
of the visited dependencies (every `HashSet` iteration order of every derive involved) -/
theorem C13_import_names_perm (deps deps' : List Visited) (h : deps.Perm deps') :
    (deps.map (·.ident)).foldl (fun a x => insertSorted x a) []
      = (deps'.map (·.ident)).foldl (fun a x => insertSorted x a) [] :=
  foldl_insertSorted_perm (h.map _) []

/-- **the whole import block is order-independent**: `generate_imports` prints the same text (or fails
the same way) for every order in which the derive's `HashSet` hands over the dependencies, provided
no two different dependencies carry the same TypeScript name (then the text is inherently ambiguous) -/
theorem C13_generate_imports_perm (esm : Bool) (cwd outDir : Str) (it : Item) (deps deps' : List Visited)
    (hp : deps.Perm deps')
    (hnd : ((deps.filter fun d => !RTy.beq d.ty (withoutGenerics it)).map (·.ident)).Nodup) :
    generateImports esm cwd outDir it deps = generateImports esm cwd outDir it deps' := by
  unfold generateImports
  rw [dedupByName_perm it deps deps' hp hnd]

/-- … and so is the whole generated file -/
theorem C13_export_to_string_perm (cfg : Cfg) (env : Env) (fuel : Nat) (esm : Bool) (cwd outDir : Str) (it : Item)
    (deps deps' : List Visited) (hp : deps.Perm deps')
    (hnd : ((deps.filter fun d => !RTy.beq d.ty (withoutGenerics it)).map (·.ident)).Nodup) :
    exportToString cfg env fuel esm cwd outDir it deps = exportToString cfg env fuel esm cwd outDir it deps' := by
  unfold exportToString
  rw [C13_generate_imports_perm esm cwd outDir it deps deps' hp hnd]

/-- **declarations in a shared file are order-independent** (restated from C05): whichever test
happens to export a shared dependency first, the block list is the same -/
theorem C13_blocks_perm (g₁ g₂ : List (Str × Str)) (hp : g₁.Perm g₂) (hnd : (g₁.map (·.1)).Nodup) :
    Merge.insertAll g₁ = Merge.insertAll g₂ := Merge.insertAll_perm hp hnd

/-- **thread schedules**: what several test threads export (each holds the registry lock for a whole `export_and_merge`) is an
interleaving of their operation lists; any two interleavings are permutations of one another, so they end in file systems that
agree at every location — the directory is a function of the set of exports, not of the schedule. -/
theorem C13_schedule_independent (slots : List Slot) (w : World) (sched₁ sched₂ : List Op) (hperm : sched₁.Perm sched₂)
    (hs : SlotsOK w.fs slots) (hok : OpsOK slots sched₁)
    (hp : w.poisoned = false) (hreg : ∀ s ∈ slots, Export.regGet w.reg (Export.regKey s.1) = none) :
    ∃ w₁ w₂, runOps slots w sched₁ = (w₁, true) ∧ runOps slots w sched₂ = (w₂, true) ∧
      w₁.fs.cwd = w₂.fs.cwd ∧ ∀ l, w₁.fs.lookup l = w₂.fs.lookup l :=
  C06_directory_order_independent slots w sched₁ sched₂ hperm hs hok hp hreg

/-- **the order in which dependencies are visited does not reach the files**: two tables that differ only in the order (and
multiplicity) of every type's dependency list — what a different iteration order of a hash-based collection, or a reordering inside
the derive, amounts to; identifiers, output paths and generated texts are the same (the texts do not depend on that order either:
`C13_export_to_string_perm`) — give `export_all` walks from the same root that visit the same types in possibly different orders, and
whenever both succeed they leave the same regular files with the same contents everywhere (`Lemmas/WalkOrder.lean`). -/
theorem C13_walk_order_independent (u₁ u₂ : Export.Universe) (hsame : SameUpToDepOrder u₁ u₂) (slots : List TSlot) (dir : Str)
    (gen : Nat → GenT) (rel : Nat → Str) (slotOf : Nat → Nat) (f₁ f₂ : Nat) (w w₁ w₂ : World) (i : Nat) (s₁ s₂ : List Nat)
    (h₁ : Export.exportRec u₁ f₁ w [] dir i = some (w₁, s₁, .ok)) (h₂ : Export.exportRec u₂ f₂ w [] dir i = some (w₂, s₂, .ok))
    (htab : ∀ j, Export.Reach u₁ i j → TableOK u₁ slots dir gen rel slotOf j)
    (hs : TSlotsOK w.fs slots)
    (hsp : ∀ j, Export.Reach u₁ i j → ∀ s, slots[slotOf j]? = some s → Path.absolute (Export.cwdStr w.fs) (Path.join dir (rel j)) = .ok s.path)
    (hgen : ∀ j, Export.Reach u₁ i j → GenOK (gen j))
    (hname : ∀ j j', Export.Reach u₁ i j → Export.Reach u₁ i j' → slotOf j = slotOf j' → (gen j).name = (gen j').name → j = j')
    (hident : ∀ j j', Export.Reach u₁ i j → Export.Reach u₁ i j' → slotOf j = slotOf j' → (gen j).ident = (gen j').ident → j = j')
    (hp : w.poisoned = false) (hreg : ∀ s ∈ slots, Export.regGet w.reg (Export.regKey s.path) = none) :
    ∀ l c, w₁.fs.lookup l = some (.file c) ↔ w₂.fs.lookup l = some (.file c) := by
  obtain ⟨o₁, hn₁, hm₁, hr₁⟩ := Export.exportRec_order u₁ f₁ w w₁ dir i s₁ h₁
  obtain ⟨o₂, hn₂, hm₂, hr₂⟩ := Export.exportRec_order u₂ f₂ w w₂ dir i s₂ h₂
  have hreach : ∀ j, Export.Reach u₂ i j ↔ Export.Reach u₁ i j := fun j => ⟨reach_congr hsame.symm i j, reach_congr hsame i j⟩
  have to1 : ∀ j, j ∈ o₁ → Export.Reach u₁ i j := fun j hj => (hm₁ j).mp hj
  have to2 : ∀ j, j ∈ o₂ → Export.Reach u₁ i j := fun j hj => (hreach j).mp ((hm₂ j).mp hj)
  obtain ⟨v₁, hv₁, i₁⟩ := runInto_repeats u₁ slots dir gen rel slotOf o₁ w _ to1 htab hs hsp hgen hname hident hp hreg
  obtain ⟨v₂, hv₂, i₂⟩ := runInto_repeats u₂ slots dir gen rel slotOf o₂ w _ to2 (fun j hj => tableOK_congr hsame _ _ _ _ _ j (htab j hj)) hs
    hsp hgen hname hident hp hreg
  rw [firstNew_of_nodup o₁ [] hn₁ (by simp)] at i₁
  rw [firstNew_of_nodup o₂ [] hn₂ (by simp)] at i₂
  cases hr₁.symm.trans hv₁
  cases hr₂.symm.trans hv₂
  have hperm : o₁.Perm o₂ := (List.perm_ext_iff_of_nodup hn₁ hn₂).mpr fun j => by rw [hm₁ j, hm₂ j, hreach j]
  exact tinv_same_files_perm w.fs slots _ _ (hperm.map _)
    (gensAt_map_nodup o₁ hn₁ slotOf gen (·.name) fun j hj j' hj' => hname j j' (to1 j hj) (to1 j' hj')) w₁ w₂ i₁ i₂

/-! non-vacuity: a root with two dependencies sharing one file, visited in the two possible orders -/
def exWA : GenT := ⟨"Alpha".toList, "Alpha".toList, [("./deep/shared".toList, ["Beta".toList, "Gamma".toList])], "export type Alpha = { b: Beta, c: Gamma, };".toList⟩
def exWB : GenT := ⟨"Beta".toList, "Beta".toList, [], "export type Beta = number;".toList⟩
def exWC : GenT := ⟨"Gamma".toList, "Gamma".toList, [], "export type Gamma = string;".toList⟩
def exWGen : Nat → GenT := fun j => if j = 0 then exWA else if j = 1 then exWB else exWC
def exWRel : Nat → Str := fun j => if j = 0 then "Alpha.ts".toList else "deep/shared.ts".toList
def exWU (deps0 : List Nat) : Export.Universe := [0, 1, 2].map fun j =>
  { ident := (exWGen j).ident, outputPath := some (exWRel j), text := .ok (genText (exWGen j)), deps := if j = 0 then deps0 else [] }
def exWW : World := { fs := { nodes := [(["w".toList], .dir)], cwd := ["w".toList] }, reg := [] }
example : SameUpToDepOrder (exWU [1, 2]) (exWU [2, 1, 2]) := by
  refine ⟨rfl, ?_⟩
  intro k t₁ t₂ h1 h2
  rcases k with _ | _ | _ | k
  · simp [exWU] at h1 h2; subst h1; subst h2; simp
  · simp [exWU] at h1 h2; subst h1; subst h2; simp
  · simp [exWU] at h1 h2; subst h1; subst h2; simp
  · simp [exWU] at h1
#guard ((Export.exportRec (exWU [1, 2]) 8 exWW [] "./out".toList 0).map fun r => r.2.1) == some [2, 1, 0]
#guard ((Export.exportRec (exWU [2, 1, 2]) 8 exWW [] "./out".toList 0).map fun r => r.2.1) == some [1, 2, 0]
#guard [["w".toList, "out".toList, "deep".toList, "shared.ts".toList], ["w".toList, "out".toList, "Alpha.ts".toList]].all fun l =>
  ((Export.exportRec (exWU [1, 2]) 8 exWW [] "./out".toList 0).bind fun r => r.1.fs.lookup l)
    == ((Export.exportRec (exWU [2, 1, 2]) 8 exWW [] "./out".toList 0).bind fun r => r.1.fs.lookup l)
  && ((Export.exportRec (exWU [1, 2]) 8 exWW [] "./out".toList 0).bind fun r => r.1.fs.lookup l).isSome

end TsRs
