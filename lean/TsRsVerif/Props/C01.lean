import TsRsVerif.Model.Serde
import TsRsVerif.Model.TsEval
import TsRsVerif.Lemmas.BuiltinLemmas
import TsRsVerif.Lemmas.MemberbSound
import TsRsVerif.Props.C12
import TsRsVerif.Lemmas.TreeSound
import TsRsVerif.Lemmas.UnfoldCheck
import TsRsVerif.Model.TsNorm
/-!
# C01 — serialized values inhabit the generated TypeScript type

`Member` (Model/Ts.lean) is the meaning of a TypeScript type under the property's reading (exact
objects, `bigint` = JSON integer, `A & B` on objects = disjoint merge).  What is PROVEN here:

* `C01_oracle_sound` — the executable test the check runs on the implementation's REAL declarations
  and REAL serde_json output is sound for `Member`: a `true` verdict is a theorem instance;
* `C01_library_lifts` — every library type constructor (to any depth) preserves soundness of the
  named types below it (this is C12's induction);
* the assembly lemmas every derive arm reduces to: an exact object from its fields (`C01_struct`),
  externally / adjacently tagged variants, union arms, internally tagged struct variants.

* `C01_items_sound` / `C01_types_sound` — END TO END for the core fragment (`Tree.fragB`: structs of
  every shape and enums of every representation with rename / rename_all / rename_all_fields / tag /
  content / skip / per-variant untagged, `optional` / `optional = nullable` / `optional_fields` paired with
  `skip_serializing_if`, type parameters (generic items at any instantiation), any library types around user
  types, recursion; no flatten, inline, `as`, `type`, `concrete`): for EVERY program in the fragment, every type, every value,
  every fuel, what the serde model writes inhabits what the tree-level derive (`Model/TreeDerive.lean`)
  declares. Tie: the tree-level derive is compared with the parsed REAL `decl()` of every corpus item in
  the fragment on every run (`tree_check`), the serde model with the real serde_json output.

* `C01_inline_sound` — the same for a program with `#[ts(inline)]` marks, for any declarations that the executable
  test `declsUnfB` accepts as unfoldings of the tree-level declarations of the program without its marks.

PARTIAL: outside that fragment (flatten, `as`, `concrete`) the composition over the whole
derive is not one theorem; it is decided per run by the sound oracle on every generated program and
value (thousands per run, all enum representations × shapes × attributes × generics).
-/
namespace TsRs
open Ts Builtin

/-- **the oracle is sound**: whenever the executable membership test accepts, the JSON value IS a
member of the TypeScript type in the formal semantics (any declarations, any fuel). -/
theorem C01_oracle_sound (D : Decls) (fuel : Nat) (t : Ts) (j : JVal) (h : memberb D fuel t j = true) :
    Member D t j := memberb_sound D fuel t j h

/-- **library constructors lift soundness**: if serialization of the user types is sound
(`NamedSound`), it is sound under `Option`, `Vec`, arrays, tuples, maps, `Result`, ranges, wrappers,
nested to any depth. -/
theorem C01_library_lifts (D : Decls) (limit : Nat) (nameN : Str → List Ts → Option Ts)
    (serN : Str → List RTy → RVal → Option JVal) (hN : NamedSound D limit nameN serN)
    (t : RTy) (v : RVal) (T : Ts) (j : JVal)
    (hT : nameTyB limit nameN t = some T) (hs : serB serN t v = some j) (hc : cleanV v = true) :
    Member D T j := C12_sound_over D limit nameN serN hN t v T j hT hs hc

/-- **a struct with named fields**: the object holding exactly one entry per (non-skipped) field,
under the field's (renamed) key, each value a member of the field's type, inhabits
`{ k₁: T₁, …, kₙ: Tₙ, }` — for any number of fields, keys pairwise distinct. -/
theorem C01_struct (D : Decls) (l : List (Str × Ts × JVal)) (hnd : (l.map (·.1)).Nodup)
    (hm : ∀ x ∈ l, Member D x.2.1 x.2.2) :
    Member D (.obj (l.map fun x => (({ name := x.1 } : TsKey), x.2.1))) (.obj (l.map fun x => (x.1, x.2.2))) := by
  refine member_obj_intro (by simpa [List.map_map, Function.comp_def] using hnd) (fun kv hkv => ?_) (fun f hf => ?_)
  · obtain ⟨x, hx, rfl⟩ := List.mem_map.1 hkv
    exact ⟨_, List.mem_map_of_mem hx, rfl, hm x hx⟩
  · obtain ⟨x, hx, rfl⟩ := List.mem_map.1 hf
    exact .inr (List.mem_map.2 ⟨_, List.mem_map_of_mem hx, rfl⟩)

/-- externally tagged non-unit variant: `{ "Name": T }` -/
theorem C01_external_variant (D : Decls) (name : Str) (T : Ts) (j : JVal) (h : Member D T j) :
    Member D (.obj [({ name := name }, T)]) (.obj [(name, j)]) := member_obj_one h

/-- externally tagged unit variant: the string literal -/
theorem C01_external_unit (D : Decls) (name : Str) : Member D (.lit name) (.str name) := Member.lit name

/-- adjacently tagged variant: `{ "tag": "Name", "content": T }` (tag ≠ content) -/
theorem C01_adjacent_variant (D : Decls) (tag content name : Str) (T : Ts) (j : JVal) (hne : tag ≠ content)
    (h : Member D T j) :
    Member D (.obj [({ name := tag }, .lit name), ({ name := content }, T)]) (.obj [(tag, .str name), (content, j)]) :=
  member_obj_cons (by simpa using hne) (.lit name) (member_obj_one h)

/-- internally tagged struct variant / tagged struct: the tag property first, then the fields -/
theorem C01_internal_struct (D : Decls) (tag name : Str) (l : List (Str × Ts × JVal))
    (hnd : (tag :: l.map (·.1)).Nodup) (hm : ∀ x ∈ l, Member D x.2.1 x.2.2) :
    Member D (.obj (({ name := tag }, .lit name) :: l.map fun x => (({ name := x.1 } : TsKey), x.2.1)))
      (.obj ((tag, .str name) :: l.map fun x => (x.1, x.2.2))) := by
  rw [List.nodup_cons] at hnd
  exact member_obj_cons (by simpa [List.map_map, Function.comp_def] using hnd.1) (.lit name) (C01_struct D l hnd.2 hm)

/-- a member of one arm is a member of the union the enum is declared as -/
theorem C01_union_arm (D : Decls) (arms : List Ts) (T : Ts) (j : JVal) (hT : T ∈ arms) (h : Member D T j) :
    Member D (.union arms) j := Member.union hT h

/-- a reference to a (generic) declaration is its body at the arguments -/
theorem C01_reference (D : Decls) (n : Str) (args : List Ts) (ps : List Str) (body : Ts) (j : JVal)
    (hl : lookupDecl D n = some (ps, body)) (h : Member D (subst (ps.zip args) body) j) :
    Member D (.ref n args) j := Member.ref hl h

/-- **end to end, user types**: in a program of the fragment, the JSON the serde model writes for ANY
value of ANY instantiation of ANY item — generic or not, at any depth of nesting, any fuel — inhabits the reference
to the item's declaration applied to the TypeScript names of the type arguments, as the tree-level derive declares it. -/
theorem C01_items_sound (cfg : Cfg) (env : Env) (hF : Tree.fragB cfg env = true)
    (fuel : Nat) (id : Str) (args : List RTy) (v : RVal) (j : JVal) (it : Item) (targs : List Ts)
    (hfind : env.find id = some it) (hargs : Builtin.nameTyBL cfg.limit (Tree.nameN env) args = some targs)
    (hs : Serde.serItem cfg env fuel id args v = some j) (hc : cleanV v = true) :
    Member (Tree.declsOf cfg env) (.ref (Derive.tsName it) targs) j :=
  all_sound C12_tableOK cfg env hF fuel id args v j it targs hfind hargs hs hc

/-- **end to end, any type expression**: library constructors around user types -/
theorem C01_types_sound (cfg : Cfg) (env : Env) (hF : Tree.fragB cfg env = true)
    (fuel : Nat) (t : RTy) (v : RVal) (j : JVal) (T : Ts)
    (hs : Serde.serTy cfg env fuel t v = some j) (hc : cleanV v = true) (hT : Tree.tyTs cfg env t = some T) :
    Member (Tree.declsOf cfg env) T j :=
  serTy_sound C12_tableOK cfg env fuel (fun m _ => all_sound C12_tableOK cfg env hF m) fuel (by omega) t v j T hs hc hT

/-- **end to end with `#[ts(inline)]`**: `env` is the program WITHOUT its `inline` marks (serde does not see them: what is written
is the same), `D'` any set of declarations that the executable test accepts as an unfolding of the tree-level declarations of
`env` — the check runs it on the parsed REAL declarations of the program WITH its marks. Then everything the serde model writes
inhabits the real declarations as well. -/
theorem C01_inline_sound (cfg : Cfg) (env : Env) (hF : Tree.fragB cfg env = true) (D' : Decls) (ufuel : Nat)
    (hw : wsdB (Tree.declsOf cfg env) = true) (hu : declsUnfB (Tree.declsOf cfg env) ufuel (Tree.declsOf cfg env) D' = true)
    (fuel : Nat) (id : Str) (args : List RTy) (v : RVal) (j : JVal) (it : Item) (targs : List Ts)
    (hfind : env.find id = some it) (hargs : Builtin.nameTyBL cfg.limit (Tree.nameN env) args = some targs)
    (hs : Serde.serItem cfg env fuel id args v = some j) (hc : cleanV v = true) :
    Member D' (.ref (Derive.tsName it) targs) j :=
  (unfold_same_values (wsdB_sound _ hw) (declsUnfB_sound _ D' ufuel hu) (unf_refl _ _) j).mp
    (C01_items_sound cfg env hF fuel id args v j it targs hfind hargs hs hc)

/-! ## non-vacuity of the end-to-end theorem: a program in the fragment, a value, its JSON -/
def exCfg : Cfg := { ops := Case.asciiOps }
def exEnv : Env := [
  { isEnum := false, name := "Leaf".toList, attr := { renameAll := some .camel },
    fields := [{ name := some "leaf_x".toList, ty := .prim "u8" }, { name := some "s".toList, ty := .option (.prim "String") }] },
  { isEnum := false, name := "G".toList, generics := [{ name := "T".toList }],
    fields := [{ name := some "t".toList, ty := .param "T".toList }, { name := some "ts".toList, ty := .vec (.param "T".toList) }] },
  { isEnum := true, name := "E".toList, attr := { tag := some "t".toList },
    variants := [{ name := "A".toList, shape := .unit, fields := [] },
                 { name := "B".toList, shape := .named, fields := [{ name := some "leaf".toList, ty := .vec (.named "Leaf".toList []) }] }] }]

example : Tree.fragB exCfg exEnv = true := by decide +kernel
-- evaluated, not kernel-checked (`serB` is defined by well-founded recursion): a test of the example, not a theorem
#guard ((Serde.serItem exCfg exEnv 10 "E".toList [] (.variant 1 [.seq [.strukt [.int 7, .none]]])).map
    (JVal.beq · (.obj [("t".toList, .str "B".toList), ("leaf".toList, .arr [.obj [("leafX".toList, .int 7), ("s".toList, .null)]])]))) == some true
example : (Tree.itemBody exCfg exEnv exEnv[2]!).map (Ts.beq · (.union [.obj [({ name := "t".toList }, .lit "A".toList)],
    .obj [({ name := "t".toList }, .lit "B".toList), ({ name := "leaf".toList }, .array (.ref "Leaf".toList []))]])) = some true := by decide +kernel

/-! ## non-vacuity: a real-looking instance through the sound oracle -/
example : Member
    [("Leaf".toList, [], .obj [({ name := "x".toList }, .number), ({ name := "fooBar".toList }, .union [.string, .null])])]
    (.union [.obj [({ name := "t".toList }, .lit "A".toList)],
             .obj [({ name := "t".toList }, .lit "B".toList), ({ name := "c".toList }, .ref "Leaf".toList [])]])
    (.obj [("t".toList, .str "B".toList), ("c".toList, .obj [("x".toList, .int 1), ("fooBar".toList, .null)])]) :=
  C01_oracle_sound _ 10 _ _ (by decide +kernel)

end TsRs
