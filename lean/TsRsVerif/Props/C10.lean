import TsRsVerif.Model.Attr
import TsRsVerif.Lemmas.ListLemmas
/-!
# C10 — serde and ts attribute spellings are equivalent; ts wins; unknown serde is inert

Token-level model of `impl_parse!` (both arms), `skip_until_next_comma`, `merge` and `from_attrs`,
driven by the key tables REGENERATED from the eight `impl_parse!` blocks. The specification of
"supported serde attribute" (position × key) is the hand-written list `spec` below — deliberately
not derived from the code.
-/
namespace TsRs
open Attr

/-- supported serde attributes per position (from the crate documentation) -/
def spec : List (Pos × String) :=
  [(.struct, "rename"), (.struct, "rename_all"), (.struct, "tag"),
   (.enum, "rename"), (.enum, "rename_all"), (.enum, "rename_all_fields"), (.enum, "tag"), (.enum, "content"), (.enum, "untagged"),
   (.variant, "rename"), (.variant, "rename_all"), (.variant, "skip"), (.variant, "untagged"),
   (.field, "rename"), (.field, "skip"), (.field, "flatten")]

/-- **both spellings are wired identically**: for every supported (position, key) the `ts` table and
the `serde` table contain the key and map it to the same target field, value parser and wrapper.
A proof over the complete finite tables, re-checked against the regenerated tables on every run
(deleting or retargeting a key in any `impl_parse!` block breaks it). -/
theorem C10_tables : spec.all (fun pk =>
    (lookupKey (tsKeys pk.1) pk.2).isSome && lookupKey (tsKeys pk.1) pk.2 == lookupKey (serdeKeys pk.1) pk.2) = true := by
  decide +kernel

theorem skip_append (body rest : List Tok) (h : ∀ t ∈ body, isComma t = false) :
    skipUntilNextComma (body ++ rest) = skipUntilNextComma rest := by
  induction body with
  | nil => rfl
  | cons t ts ih =>
    simp only [List.cons_append, skipUntilNextComma, h t (by simp), Bool.false_eq_true, if_false]
    exact ih (fun x hx => h x (by simp [hx]))

/-- **an unsupported serde entry is inert, in any position of the list**: a key the table does not
know, followed by ANY tokens up to the next top-level comma, is skipped and parsing continues with
the rest of the list exactly as if the entry were not there -/
theorem C10_inert_unknown (tbl : List (String × String × String × String)) (n : Nat) (acc : Parsed)
    (k : String) (body rest : List Tok) (hk : lookupKey tbl k = none) (hb : ∀ t ∈ body, isComma t = false) (hr : rest ≠ []) :
    parseLoop tbl true (n + 1) acc (Tok.ident k :: (body ++ Tok.punct ',' :: rest)) = parseLoop tbl true n acc rest := by
  cases rest with
  | nil => exact absurd rfl hr
  | cons r0 rs => simp [parseLoop, hk, skip_append body _ hb, skipUntilNextComma, isComma]

/-- … also as the last entry of the list -/
theorem C10_inert_unknown_last (tbl : List (String × String × String × String)) (n : Nat) (acc : Parsed)
    (k : String) (body : List Tok) (hk : lookupKey tbl k = none) (hb : ∀ t ∈ body, isComma t = false) :
    parseLoop tbl true (n + 1) acc (Tok.ident k :: body) = .ok acc := by
  have h := skip_append body [] hb
  rw [List.append_nil] at h
  simp [parseLoop, hk, h, skipUntilNextComma]

/-- **a supported key in a form that cannot be parsed is inert too** (e.g. `rename(serialize = ..)`,
`bound(..)`): it is skipped like an unknown one instead of discarding the list -/
theorem C10_inert_unparseable (tbl : List (String × String × String × String)) (n : Nat) (acc : Parsed)
    (k : String) (x : String × String × String) (body rest : List Tok) (hk : lookupKey tbl k = some x)
    (hv : parseValue x.2.1 (body ++ Tok.punct ',' :: rest) = none) (hb : ∀ t ∈ body, isComma t = false) (hr : rest ≠ []) :
    parseLoop tbl true (n + 1) acc (Tok.ident k :: (body ++ Tok.punct ',' :: rest)) = parseLoop tbl true n acc rest := by
  obtain ⟨target, parser, w⟩ := x
  cases rest with
  | nil => exact absurd rfl hr
  | cons r0 rs => simp [parseLoop, hk, hv, skip_append body _ hb, skipUntilNextComma, isComma]

/-- **a trailing comma is fine**: an unknown last entry followed by `,` ends the list as well -/
theorem C10_trailing_comma (tbl : List (String × String × String × String)) (n : Nat) (acc : Parsed)
    (k : String) (body : List Tok) (hk : lookupKey tbl k = none) (hb : ∀ t ∈ body, isComma t = false) :
    parseLoop tbl true (n + 1) acc (Tok.ident k :: (body ++ [Tok.punct ','])) = .ok acc := by
  simp [parseLoop, hk, skip_append body _ hb, skipUntilNextComma, isComma]

/-- **with serde compatibility off, serde attributes have no effect at all** -/
theorem C10_compat_off (pos : Pos) (ts serde serde' : List (List Tok)) :
    fromAttrs false pos ts serde = fromAttrs false pos ts serde' := by
  unfold fromAttrs; cases parseTsAttrs pos ts <;> rfl

/-- **ts wins**: for every `Option`-valued attribute the merged value is the `ts` one whenever the
`ts` lists set it, whatever the serde lists say -/
theorem C10_ts_wins (p q : Parsed) (k v : String) (hk : mergeKind k = .firstWins)
    (hp : (p.find? (·.1 = k)).map (·.2) = some v) :
    ((merge p q).find? (·.1 = k)).map (·.2) = some v := by
  have hmem : k ∈ (p.map (·.1) ++ q.map (·.1)).eraseDups := by
    obtain ⟨e, he, rfl⟩ := Option.map_eq_some_iff.mp hp
    rw [List.mem_eraseDups, List.mem_append, List.mem_map]
    exact .inl ⟨e, List.mem_of_find?_eq_some he, by simpa using List.find?_some he⟩
  unfold merge
  rw [find?_filterMap_key _ _ k, if_pos hmem, hp]
  · cases (q.find? (·.1 = k)).map (·.2) <;> simp [hk]
  · -- every row of `merge` that yields an entry yields it under the key it was asked for
    intro k' kv
    cases (p.find? (·.1 = k')).map (·.2) <;> cases (q.find? (·.1 = k')).map (·.2) <;> try cases mergeKind k'
    all_goals simp; try (rintro rfl; rfl)

/-! ## the defects of the pinned snapshot (fixed by three `fix:` commits), as counter-examples -/

/-- old `skip_until_next_comma`: a bare unknown key followed by `,` swallowed the next entry -/
theorem C10_old_cex_bare_key_swallows :
    (skipUntilNextCommaOld [Tok.punct ',', Tok.ident "tag", Tok.punct '=', Tok.strLit "t"]).length = 0 ∧
    (skipUntilNextComma [Tok.punct ',', Tok.ident "tag", Tok.punct '=', Tok.strLit "t"]).length = 4 := by decide

/-! ## non-vacuity: a whole list through the model -/
example : (match parseList (serdeKeys .enum) true
      [Tok.ident "deny_unknown_fields", Tok.punct ',', Tok.ident "rename", Tok.group [Tok.ident "serialize", Tok.punct '=', Tok.strLit "a"],
       Tok.punct ',', Tok.ident "tag", Tok.punct '=', Tok.strLit "t", Tok.punct ',', Tok.ident "skip_serializing_if", Tok.punct '=', Tok.strLit "x"] with
    | .ok p => p == [("tag", "t")]
    | .error _ => false) = true := by decide +kernel

end TsRs
