import TsRsVerif.Lemmas.TextLemmas
import TsRsVerif.Lemmas.CommentLemmas
import TsRsVerif.Lemmas.Closed
import TsRsVerif.Lemmas.LitChars
/-
  Props/C15.lean — doc comments are contained and never alter the type.

  `Derive.parseDocs` / `Derive.jsdoc` / `Derive.escapeClose` transcribe `utils.rs:parse_docs`; the
  lexical model `Comment.run` (block / line comments, strings) says what a TypeScript reader takes
  for comment and what for code. The theorems hold for EVERY doc text (any characters, any number
  of lines, any length): the generated block is exactly one comment, it ends where the generator
  ended it, removing it leaves the significant characters of the file unchanged, and the doc text
  is inside it. The tie (tools/props/c15.py) runs the real `parse_docs` and the real derive on
  generated doc texts and compares with the model byte for byte, and checks the context
  hypothesis (`endState .code prefix = .code`) on the real output with an independent lexer.
-/
namespace TsRs
open Text Derive Comment

/-- the text handed to `jsdoc` for a non-empty list of doc attributes -/
def docInner (ds : List Str) : Str :=
  match ds with
  | [] => []
  | [d] => if d.contains '\n' then d else "\n *".toList ++ d ++ "\n ".toList
  | ds => '\n' :: intercalate ['\n'] (ds.map fun l => " *".toList ++ l) ++ "\n ".toList

theorem parseDocs_eq (ds : List Str) (h : ds ≠ []) : parseDocs ds = jsdoc (docInner ds) := by
  match ds, h with
  | [d], _ => simp only [parseDocs, docInner]; split <;> rfl
  | a :: b :: r, _ => simp [parseDocs, docInner]

/-- **containment**: whatever the text, the generated block read as a TypeScript comment ends exactly
where the generator ended it; its body is the escaped text -/
theorem C15_contained (text rest : Str) :
    leadingComment (jsdoc text ++ rest) = some (escapeClose ('*' :: text), '\n' :: rest) := by
  have h := splitClose_noClose ('\n' :: rest) (escapeClose ('*' :: text)) (escapeClose_noClose _)
  simp only [jsdoc, List.cons_append, List.append_assoc, List.nil_append, leadingComment] at h ⊢
  exact h

/-- … for every non-empty list of doc attributes -/
theorem C15_docs_one_comment (ds : List Str) (h : ds ≠ []) (rest : Str) :
    leadingComment (parseDocs ds ++ rest) = some (escapeClose ('*' :: docInner ds), '\n' :: rest) := by
  rw [parseDocs_eq ds h]; exact C15_contained _ _

/-- **nothing of the block is read as code**: the lexer is back in `code` state right after it,
having emitted nothing -/
theorem C15_jsdoc_inert (text rest : Str) : run .code (jsdoc text ++ rest) = run .code rest := by
  have h := (run_block_skip ('\n' :: rest) (escapeClose ('*' :: text))).1 (escapeClose_noClose _)
  simp only [jsdoc, List.cons_append, List.append_assoc, List.nil_append]
  rw [run_code_ws rfl] at h
  simp only [run, step, codeStep]
  simp [h]

theorem C15_docs_inert (ds : List Str) (rest : Str) : run .code (parseDocs ds ++ rest) = run .code rest := by
  by_cases h : ds = []
  · subst h; rfl
  · rw [parseDocs_eq ds h]; exact C15_jsdoc_inert _ _

/-- field documentation (`"\n" ++ block`) is inert too -/
theorem C15_field_docs_inert (ds : List Str) (rest : Str) : run .code (fieldDocs ds ++ rest) = run .code rest := by
  unfold fieldDocs
  simp only
  split
  · rfl
  · rw [List.cons_append, run_code_ws rfl]; exact C15_docs_inert ds rest

/-- **docs never alter the type**: wherever a doc block is placed in code position, the file with
and without it has the same significant characters (hence declares the same types) -/
theorem C15_inert_in_context (p : Str) (ds : List Str) (rest : Str) (hp : endState .code p = .code) :
    sig .code (p ++ (parseDocs ds ++ rest)) = sig .code (p ++ rest) :=
  sig_skip p _ rest hp (C15_docs_inert ds rest)

theorem C15_field_inert_in_context (p : Str) (ds : List Str) (rest : Str) (hp : endState .code p = .code) :
    sig .code (p ++ (fieldDocs ds ++ rest)) = sig .code (p ++ rest) :=
  sig_skip p _ rest hp (C15_field_docs_inert ds rest)

/-- a whole object body: any number of fields, each with any documentation — provided the
undocumented field texts are lexically closed (checked on the real output by the tie) -/
theorem C15_fields_docs_inert : ∀ (fs : List (List Str × Str)), (∀ f ∈ fs, endState .code f.2 = .code) →
    run .code (intercalate [' '] (fs.map fun f => fieldDocs f.1 ++ f.2)) = run .code (intercalate [' '] (fs.map (·.2)))
  | [], _ => rfl
  | [f], _ => C15_field_docs_inert f.1 f.2
  | f :: g :: r, h => by
    have ih := C15_fields_docs_inert (g :: r) (fun x hx => h x (by simp [hx]))
    simp only [List.map, intercalate, List.append_assoc, List.singleton_append] at ih ⊢
    rw [C15_field_docs_inert]
    exact run_congr_closed (h f (by simp)) (by rw [run_code_ws rfl, run_code_ws rfl, ih])

/-- texts built from pieces without `/` and quotes (identifiers, punctuation, numbers, white space) and string literals whose body
escapes the quote and the backslash — what ts-rs writes for property names, type names, literal types and the punctuation around them -/
inductive Rendered : Str → Prop where
  | plain {s : Str} : (∀ c ∈ s, c ≠ '/' ∧ isQuote c = false) → Rendered s
  | lit {q : Char} {body : Str} : isQuote q = true → LitBody q body → Rendered (q :: (body ++ [q]))
  | append {a b : Str} : Rendered a → Rendered b → Rendered (a ++ b)

/-- **the context hypothesis holds for every rendering of that kind**: after it the reader is in code again -/
theorem C15_rendered_closed {s : Str} (h : Rendered s) : endState .code s = .code := by
  induction h with
  | plain hp => exact closed_plain _ hp
  | lit hq hb => exact closed_lit _ hq _ hb
  | append _ _ iha ihb => exact Closed.append iha ihb

/-- … so documentation on any fields of an object body written from such pieces never changes what is read as code -/
theorem C15_rendered_fields_docs_inert (fs : List (List Str × Str)) (h : ∀ f ∈ fs, Rendered f.2) :
    run .code (intercalate [' '] (fs.map fun f => fieldDocs f.1 ++ f.2)) = run .code (intercalate [' '] (fs.map (·.2))) :=
  C15_fields_docs_inert fs (fun f hf => C15_rendered_closed (h f hf))

/-- **what ts-rs writes for a property name is such a piece**, for EVERY name: an identifier-like name as it is (letters, digits, `_`,
`$` — given that the character table calls neither `/` nor a quote alphanumeric), anything else through the string-literal routine
(given the lexical contract `EscLex` of the escape table: what is written for one character has no bare `"` and no dangling backslash;
proven for the ASCII table, `C15_ascii_table_ok`) -/
theorem C15_property_name_rendered (ops : CharOps) (hesc : EscLex ops)
    (hal : ∀ c, ops.isAlnum c = true → c ≠ '/' ∧ isQuote c = false) (n : Str) :
    Rendered (Case.rawNameToTsField ops n) := by
  unfold Case.rawNameToTsField
  by_cases hv : Case.validName ops n = true
  · simp only [hv, if_true]
    refine Rendered.plain ?_
    intro c hc
    simp only [Case.validName, Bool.and_eq_true, List.all_eq_true, Bool.or_eq_true, decide_eq_true_eq] at hv
    rcases hv.1.2 c hc with (h | h) | h
    · exact hal c h
    · subst h; decide
    · subst h; decide
  · simp only [hv, Bool.false_eq_true, if_false]
    obtain ⟨body, he, hb⟩ := quoteStr_litBody ops hesc n
    rw [he]
    exact Rendered.lit (by decide) hb

/-- the ASCII character table meets both hypotheses -/
theorem C15_ascii_table_ok : EscLex Case.asciiOps ∧ ∀ c, Case.asciiOps.isAlnum c = true → c ≠ '/' ∧ isQuote c = false := by
  refine ⟨fun c => (asciiEsc_form c).lex, ?_⟩
  intro c h
  simp only [Case.asciiOps, Case.isAsciiUpper, Case.isAsciiLower, Bool.or_eq_true, Bool.and_eq_true, decide_eq_true_eq] at h
  constructor
  · intro e; subst e; revert h; decide
  · simp only [isQuote, Bool.or_eq_false_iff, decide_eq_false_iff_not]
    constructor <;> (intro e; subst e; revert h; decide)

/-- non-vacuity: a property with a quoted name that contains a quote, a backslash, `/*` and `//`, and a literal type -/
example : Rendered "\"a\\\"b\\\\ /* // */\": 'x' | Array<number>,".toList := by
  have e : "\"a\\\"b\\\\ /* // */\": 'x' | Array<number>,".toList
      = ('"' :: ("a\\\"b\\\\ /* // */".toList ++ ['"'])) ++ (": ".toList ++ (('\'' :: ("x".toList ++ ['\''])) ++ " | Array<number>,".toList)) := by lit_chars; rfl
  rw [e]; lit_chars
  refine Rendered.append (Rendered.lit (by decide +kernel) ?_) (Rendered.append (Rendered.plain (by decide +kernel)) (Rendered.append (Rendered.lit (by decide +kernel) ?_) (Rendered.plain (by decide +kernel))))
  · exact litBodyB_sound _ _ (by decide +kernel)
  · exact litBodyB_sound _ _ (by decide +kernel)

/-- **the documentation text is in the comment**: every doc line is part of the block's text, which
is a subsequence of the comment body (escaping only inserts backslashes) … -/
theorem C15_text_kept (ds : List Str) (l : Str) (hl : l ∈ ds) :
    l <:+: docInner ds ∧ List.Sublist (docInner ds) (escapeClose ('*' :: docInner ds)) := by
  refine ⟨?_, (List.sublist_cons_self '*' (docInner ds)).trans (escapeClose_sublist _)⟩
  match ds, hl with
  | [d], hl =>
    simp only [List.mem_cons, List.not_mem_nil, or_false] at hl
    subst hl
    simp only [docInner]
    split
    · exact List.infix_refl _
    · exact ⟨"\n *".toList, "\n ".toList, by simp⟩
  | a :: b :: r, hl =>
    simp only [docInner]
    have h1 := infix_intercalate ['\n'] _ _ (List.mem_map_of_mem (f := fun l => " *".toList ++ l) hl)
    have h2 : l <:+: (fun l => " *".toList ++ l) l := ⟨" *".toList, [], by simp⟩
    obtain ⟨s, t, hst⟩ := h2.trans h1
    exact ⟨'\n' :: s, t ++ "\n ".toList, by rw [← hst]; simp⟩

/-- … and verbatim when the text forms no `*/` -/
theorem C15_text_verbatim (ds : List Str) (h : hasClose ('*' :: docInner ds) = false) (hne : ds ≠ []) :
    parseDocs ds = '/' :: '*' :: '*' :: docInner ds ++ "*/\n".toList := by
  rw [parseDocs_eq ds hne, jsdoc, escapeClose_id _ h]; rfl

/-! ## the defect that was there: without the escape the block ends early (`/// see **/*.rs`) -/

def parseDocsOld (docs : List Str) : Str :=
  match docs with
  | [] => []
  | [d] => if d.contains '\n' then "/**".toList ++ d ++ "*/\n".toList
           else "/**\n".toList ++ " *".toList ++ d ++ "\n */\n".toList
  | ds => "/**\n".toList ++ intercalate ['\n'] (ds.map fun l => " *".toList ++ l) ++ "\n */\n".toList

theorem C15_old_cex_glob :
    sig .code (parseDocsOld [" see **/*.rs".toList] ++ "export type A = number;".toList) ≠ sig .code "export type A = number;".toList ∧
    sig .code (parseDocs [" see **/*.rs".toList] ++ "export type A = number;".toList) = sig .code "export type A = number;".toList := by
  lit_chars; decide +kernel

theorem C15_old_cex_leading_slash :
    (leadingComment (parseDocsOld ["/x".toList] ++ "T".toList)).map (·.2) ≠ some "\nT".toList ∧
    (leadingComment (parseDocs ["/x".toList] ++ "T".toList)).map (·.2) = some "\nT".toList := by
  decide +kernel

/-! ## non-vacuity -/
example : endState .code "{ a: number, \"b-c\": \"x/*y\", ".toList = .code := by lit_chars; decide +kernel
example : parseDocs [" a".toList, " b*/c".toList] = "/**\n * a\n * b*\\/c\n */\n".toList := by lit_chars; decide +kernel

end TsRs
