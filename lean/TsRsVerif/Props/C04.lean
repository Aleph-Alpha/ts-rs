/-
  Props/C04.lean — exported files are well-formed modules holding exactly the requested types.

  What is proven (for every name, rename, tag, content string — any characters, any length):
  * every string ts-rs writes between quotes (`quoteStr`, Rust's `{:?}`) is ONE string literal that
    ends where the generator ended it and denotes the original text (`C04_literal_roundtrip`),
    given the per-character contract `EscOk` of the escape table — proven for the ASCII table
    (`C04_ascii_table_ok`), evaluated at run time on every row of the table taken from Rust;
  * a property name is either identifier-like or such a literal, never empty (`C04_key_shape`,
    `C04_key_reads_back`);
  * a generated file starts with the notice, ends with a newline and has the layout
    notice / imports / docs / `export ` declaration (`C04_layout`);
  * whatever the order of exports into a shared file, every requested declaration is there exactly once
    (`C04_each_once`, from the merge theorems of C05).
  The tie (tools/props/c04.py) parses every real output with an independent TypeScript grammar
  (tools/props/tsgrammar.py) and compares model and implementation byte for byte.
-/
import TsRsVerif.Lemmas.QuoteLemmas
import TsRsVerif.Lemmas.MergeLemmas
import TsRsVerif.Model.Deps
import TsRsVerif.Lemmas.LitChars
namespace TsRs
open Case TsParse Derive

/-- **a quoted string is one literal denoting the original text** -/
theorem C04_literal_roundtrip (ops : CharOps) (hok : EscOk ops) (s rest : Str) :
    strLit (quoteStr ops s ++ rest) = some (s, rest) := by
  simpa [quoteStr, strLit] using litBody_quote ops hok s [] rest

theorem C04_ascii_table_ok : EscOk asciiOps := fun c => (asciiEsc_form c).ok

/-- every quoting site of the derive model goes through `quoteStr` -/
theorem C04_quoted_is_quoteStr (cfg : Cfg) (s : Str) : quoted cfg s = quoteStr cfg.ops s := rfl

/-- **property names**: identifier-like (non-empty, letters / digits / `_` / `$`, not starting with a
digit) and written as they are, or written as a string literal -/
theorem C04_key_shape (ops : CharOps) (n : Str) :
    (rawNameToTsField ops n = n ∧ n ≠ [] ∧ (∀ c ∈ n, ops.isAlnum c = true ∨ c = '_' ∨ c = '$') ∧
        (∀ c r, n = c :: r → ops.isNumeric c = false))
    ∨ rawNameToTsField ops n = quoteStr ops n := by
  unfold rawNameToTsField
  cases h : validName ops n with
  | false => right; simp
  | true =>
    left
    simp only [validName, Bool.and_eq_true, Bool.not_eq_true', List.all_eq_true, Bool.or_eq_true, decide_eq_true_eq] at h
    refine ⟨by simp, ?_, ?_, ?_⟩
    · intro hn; subst hn; simp at h
    · exact fun c hc => or_assoc.mp (h.1.2 c hc)
    · intro c r hcr
      subst hcr
      simpa using h.2

theorem C04_key_reads_back (ops : CharOps) (hok : EscOk ops) (n rest : Str) (h : validName ops n = false) :
    strLit (rawNameToTsField ops n ++ rest) = some (n, rest) := by
  unfold rawNameToTsField; simp only [h, Bool.false_eq_true, ↓reduceIte]; exact C04_literal_roundtrip ops hok n rest

/-- the empty name is never written bare -/
theorem C04_empty_key (ops : CharOps) : rawNameToTsField ops [] = ['"', '"'] := by
  simp [rawNameToTsField, validName, quoteStr]

/-- **layout of a generated file** -/
theorem C04_layout (cfg : Cfg) (env : Env) (fuel : Nat) (esm : Bool) (cwd outDir : Str) (it : Item) (deps : List Visited) (s : Str)
    (h : exportToString cfg env fuel esm cwd outDir it deps = some (.ok (.ok s))) :
    Merge.NOTE <+: s ∧ s.getLast? = some '\n' ∧
    ∃ imports d, s = Merge.NOTE ++ imports ++ parseDocs it.attr.docs ++ "export ".toList ++ d ++ ['\n'] := by
  unfold exportToString at h
  cases hg : generateImports esm cwd outDir it deps with
  | none => simp [hg] at h
  | some r =>
    cases r with
    | error e => simp [hg] at h
    | ok imports =>
      simp only [hg, Option.some.injEq, Except.ok.injEq] at h
      cases hd : declS cfg env fuel it with
      | panic m => simp [hd, bind, Res.bind] at h
      | ok d =>
        simp only [hd, bind, Res.bind, pure, Res.ok.injEq] at h
        subst h
        refine ⟨⟨imports ++ parseDocs it.attr.docs ++ "export ".toList ++ d ++ ['\n'], by simp [List.append_assoc]⟩, ?_, imports, d, rfl⟩
        rw [List.getLast?_append]; simp

/-- **each requested declaration exactly once** in a shared file, whatever the export order -/
theorem C04_each_once (g : List (Str × Str)) (hnd : (g.map (·.1)).Nodup) :
    ((Merge.insertAll g).map (·.1)).Perm (g.map (·.1)) ∧ ((Merge.insertAll g).map (·.1)).Nodup := by
  have hp := (Merge.insertAll_perm_sorted g hnd).1
  exact ⟨hp.map _, (hp.map _).nodup_iff.mpr hnd⟩

/-! ## the defect that was there: names between bare quotes -/
theorem C04_old_cex_quote :
    strLit (['"'] ++ "a\"b".toList ++ ['"'] ++ ": number".toList) ≠ some ("a\"b".toList, ": number".toList) ∧
    strLit (quoteStr asciiOps "a\"b".toList ++ ": number".toList) = some ("a\"b".toList, ": number".toList) := by
  lit_chars; decide +kernel

/-! ## non-vacuity -/
example : rawNameToTsField asciiOps "kebab-case".toList = "\"kebab-case\"".toList := by lit_chars; decide +kernel
example : rawNameToTsField asciiOps "a\\b\n".toList = "\"a\\\\b\\n\"".toList := by lit_chars; decide +kernel
example : rawNameToTsField asciiOps "fooBar".toList = "fooBar".toList := by lit_chars; decide +kernel

end TsRs
