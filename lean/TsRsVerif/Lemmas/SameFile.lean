import TsRsVerif.Model.Path
import TsRsVerif.Lemmas.TextLemmas
import TsRsVerif.Lemmas.PathLemmas
/-! The `is_same_file` test of `generate_imports` (export.rs): which specifiers pass it (`isSameFile_iff`), that the importing
file's own specifier does, and that `import_path` returns that specifier when the dependency is the importing file. -/
namespace TsRs.Path
open TsRs.Text

theorem isSameFile_iff (frm spec ff : Str) (hfn : fileName frm = some (ff ++ dotTs)) (hts : endsWith dotTs ff = false) :
    isSameFile frm spec = true ↔ trimEndMatches dotJs spec = ['.', '/'] ++ ff := by
  rw [isSameFile, hfn]
  simp only [trimEndMatches_once dotTs ff (by decide) hts, beq_iff_eq]
  exact eq_comm

theorem resolveLoop_dot_slash (fd : List Str) (ff : Str) (hffs : '/' ∉ ff) :
    resolveLoop fd (splitChar '/' (['.', '/'] ++ ff ++ dotTs)) = some (fd ++ [ff ++ dotTs]) := by
  have hs : '/' ∉ ff ++ dotTs := by simp [dotTs, hffs]
  have h1 : splitChar '/' (['.', '/'] ++ ff ++ dotTs) = [['.'], ff ++ dotTs] := by
    simpa [splitChar] using splitChar_single '/' (ff ++ dotTs) hs
  rw [h1]
  simp [resolveLoop, append_dotTs_ne ff]

theorem same_file_detects_self (esm : Bool) (frm ff : Str) (hfn : fileName frm = some (ff ++ dotTs))
    (hts : endsWith dotTs ff = false) (hjs : endsWith dotJs ff = false) :
    isSameFile frm (['.', '/'] ++ ff ++ (if esm then dotJs else [])) = true := by
  have h : endsWith dotJs (['.', '/'] ++ ff) = false := by
    rw [show ['.', '/'] ++ ff = ['.'] ++ '/' :: ff from rfl, endsWith_after (by decide)]; exact hjs
  rw [isSameFile_iff frm _ ff hfn hts]
  cases esm
  · simpa using trimEndMatches_none dotJs _ h
  · exact trimEndMatches_once dotJs _ (by decide) h

/-- **a file never imports from itself, under any spelling of its own path**: when the dependency's normalised path is the importing
directory's followed by `ff.ts`, `import_path` returns `./ff` (`./ff.js` with ES-module imports) and the `is_same_file` test recognises it. -/
theorem self_import_skipped (esm : Bool) (cwd frm imp dir p b ff : Str) (fd : List Str)
    (hdir : parent frm = some dir) (hfn : fileName frm = some (ff ++ dotTs))
    (hp : absolute cwd imp = .ok p) (hb : absolute cwd dir = .ok b)
    (hpc : components p = Comp.root :: N (fd ++ [ff ++ dotTs]))
    (hbc : components b = Comp.root :: N fd)
    (hffs : '/' ∉ ff) (hts : endsWith dotTs ff = false) (hjs : endsWith dotJs ff = false) :
    importPath esm cwd frm imp = some (.ok (['.', '/'] ++ ff ++ (if esm then dotJs else []))) ∧
    isSameFile frm (['.', '/'] ++ ff ++ (if esm then dotJs else [])) = true := by
  refine ⟨?_, same_file_detects_self esm frm ff hfn hts hjs⟩
  have hrel : ofComps (diffLoop false (N (fd ++ [ff ++ dotTs])) (N fd)) = intercalate ['/'] ([] ++ [ff ++ dotTs]) := by
    rw [show N (fd ++ [ff ++ dotTs]) = N fd ++ [Comp.normal (ff ++ dotTs)] by simp [N], diffLoop_prefix fd _ (by simp)]
    rfl
  rw [importPath_eq esm cwd frm imp dir p b _ fd hdir hp hb hpc hbc, hrel,
    specOfRel_pieces esm [] ff (by simp [dotTs, hffs]) (by simp) hts]
  simp [dotted, intercalate]

theorem trimEndMatches_prefix (pat s : Str) : ∃ t, s = trimEndMatches pat s ++ t :=
  (trimEndMatches_isPrefix pat s).imp fun _ => Eq.symm

end TsRs.Path
