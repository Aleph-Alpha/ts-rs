import TsRsVerif.Model.Text
/-!
`insertSorted` (a `BTreeSet<&str>`), `insertByName` (the blocks of a file), `touchPath` and `insertImport` (the
`BTreeMap` of import lines) are one operation, `upsert`: walk to the first entry whose key is not smaller; put the new
entry before it, or change it if it has the same key. What the keys and the entries become, that two insertions commute,
that inserting at the end appends: none of it needs the list to be sorted.
-/
namespace TsRs.Text

/-! `ltStr` (Rust's byte-wise `str` order) is core's lexicographic `<` on `List Char`; its order laws come from there. -/

theorem ltStr_iff_lt : ∀ {a b : Str}, ltStr a b = true ↔ a < b
  | [], [] => by simp [ltStr]
  | [], _ :: _ => by simp [ltStr]
  | _ :: _, [] => by simp [ltStr]
  | x :: xs, y :: ys => by
    have hxy : x.toNat < y.toNat ↔ x < y := by rw [Char.lt_def, UInt32.lt_iff_toNat_lt]; rfl
    have hyx : y.toNat < x.toNat ↔ y < x := by rw [Char.lt_def, UInt32.lt_iff_toNat_lt]; rfl
    simp only [ltStr, List.cons_lt_cons_iff, ← ltStr_iff_lt (a := xs), hxy, hyx]
    rcases Std.lt_trichotomy x y with h | rfl | h
    · simp [h]
    · simp
    · simp [h, Char.lt_asymm h, (Char.ne_of_lt h).symm]

theorem ltStr_irrefl (a : Str) : ltStr a a = false := by
  simpa [← ltStr_iff_lt] using List.lt_irrefl a

theorem ltStr_asymm {a b : Str} (h : ltStr a b = true) : ltStr b a = false := by
  simpa [← ltStr_iff_lt] using List.lt_asymm (ltStr_iff_lt.mp h)

theorem ltStr_trans {a b c : Str} (h1 : ltStr a b = true) (h2 : ltStr b c = true) : ltStr a c = true :=
  ltStr_iff_lt.mpr (List.lt_trans (ltStr_iff_lt.mp h1) (ltStr_iff_lt.mp h2))

theorem ltStr_total {a b : Str} (h : a ≠ b) : ltStr a b = true ∨ ltStr b a = true := by
  simp only [ltStr_iff_lt]
  rcases Std.lt_trichotomy a b with h' | h' | h'
  · exact .inl h'
  · exact absurd h' h
  · exact .inr h'

theorem ltStr_ne {a b : Str} (h : ltStr a b = true) : a ≠ b :=
  fun e => by simp [e, ltStr_irrefl] at h

def upsert {β : Type} (k : Str) (v : β) (f : β → β) : List (Str × β) → List (Str × β)
  | [] => [(k, v)]
  | (p, w) :: es =>
    if ltStr k p then (k, v) :: (p, w) :: es
    else if k = p then (p, f w) :: es
    else (p, w) :: upsert k v f es

def SortedS (l : List Str) : Prop := l.Pairwise fun a b => ltStr a b = true

section
variable {β : Type} {k : Str} {v : β} {f : β → β}

theorem keys_upsert (l : List (Str × β)) : (upsert k v f l).map (·.1) = insertSorted k (l.map (·.1)) := by
  induction l with
  | nil => rfl
  | cons e es ih =>
    simp only [upsert, List.map_cons, insertSorted]
    split
    · rfl
    · split <;> simp [ih]

theorem mem_upsert {x : Str × β} {l : List (Str × β)} (h : x ∈ upsert k v f l) :
    x ∈ l ∨ x = (k, v) ∨ ∃ w, (k, w) ∈ l ∧ x = (k, f w) := by
  induction l with
  | nil => exact .inr (.inl (by simpa [upsert] using h))
  | cons e es ih =>
    simp only [upsert] at h
    split at h
    · rcases List.mem_cons.mp h with h | h
      · exact .inr (.inl h)
      · exact .inl h
    · split at h
      · rename_i hke
        rcases List.mem_cons.mp h with h | h
        · exact .inr (.inr ⟨e.2, by simp [hke], hke ▸ h⟩)
        · exact .inl (List.mem_cons_of_mem _ h)
      · rcases List.mem_cons.mp h with h | h
        · exact .inl (by simp [h])
        · rcases ih h with h | h | ⟨w, hw, h⟩
          · exact .inl (List.mem_cons_of_mem _ h)
          · exact .inr (.inl h)
          · exact .inr (.inr ⟨w, List.mem_cons_of_mem _ hw, h⟩)

theorem upsert_perm {l : List (Str × β)} (h : ∀ e ∈ l, e.1 ≠ k) : (upsert k v f l).Perm ((k, v) :: l) := by
  induction l with
  | nil => exact .refl _
  | cons e es ih =>
    have he : ¬ k = e.1 := fun e' => h e (by simp) e'.symm
    simp only [upsert, he, if_false]
    split
    · exact .refl _
    · exact ((ih fun e' he' => h e' (by simp [he'])).cons e).trans (.swap _ _ _)

theorem upsert_append {l : List (Str × β)} (h : ∀ e ∈ l, ltStr e.1 k = true) (r : List (Str × β)) :
    upsert k v f (l ++ r) = l ++ upsert k v f r := by
  induction l with
  | nil => rfl
  | cons e es ih =>
    have he := h e (by simp)
    simp only [List.cons_append, upsert, ltStr_asymm he, (ltStr_ne he).symm, if_false, Bool.false_eq_true]
    rw [ih fun e' he' => h e' (by simp [he'])]

theorem upsert_upsert (v' : β) (f' : β → β) (l : List (Str × β)) :
    upsert k v' f' (upsert k v f l) = upsert k (f' v) (f' ∘ f) l := by
  induction l with
  | nil => simp [upsert, ltStr_irrefl]
  | cons e es ih =>
    simp only [upsert]
    split
    · simp [upsert, ltStr_irrefl]
    · rename_i h1
      split
      · rename_i h2; simp [upsert, ← h2, ltStr_irrefl]
      · rename_i h2; simp [upsert, h1, h2, ih]

private theorem upsert_comm_lt {k₁ k₂ : Str} {v₁ v₂ : β} {f₁ f₂ : β → β} (h : ltStr k₁ k₂ = true) (l : List (Str × β)) :
    upsert k₁ v₁ f₁ (upsert k₂ v₂ f₂ l) = upsert k₂ v₂ f₂ (upsert k₁ v₁ f₁ l) := by
  have h' := ltStr_asymm h
  have hne : ¬ k₂ = k₁ := fun e => ltStr_ne h e.symm
  induction l with
  | nil => simp [upsert, h, h', hne]
  | cons e es ih =>
    by_cases c₂ : ltStr k₂ e.1 = true
    · simp [upsert, c₂, ltStr_trans h c₂, h, h', hne]
    · by_cases e₂ : k₂ = e.1
      · subst e₂; simp [upsert, h, h', hne, ltStr_irrefl]
      · by_cases c₁ : ltStr k₁ e.1 = true
        · simp [upsert, c₁, c₂, e₂, h', hne]
        · by_cases e₁ : k₁ = e.1
          · subst e₁; simp [upsert, c₂, e₂, ltStr_irrefl]
          · simp [upsert, c₁, c₂, e₁, e₂, ih]

theorem upsert_comm {k₁ k₂ : Str} (h : k₁ ≠ k₂) (v₁ v₂ : β) (f₁ f₂ : β → β) (l : List (Str × β)) :
    upsert k₁ v₁ f₁ (upsert k₂ v₂ f₂ l) = upsert k₂ v₂ f₂ (upsert k₁ v₁ f₁ l) :=
  (ltStr_total h).elim (upsert_comm_lt · l) (fun h' => (upsert_comm_lt h' l).symm)

/-- what the entries are written as only grows: the old text is a subsequence of the new one -/
theorem flatten_map_upsert_sublist {γ : Type} (g : Str × β → List γ) (hf : ∀ p w, (g (p, w)).Sublist (g (p, f w)))
    (l : List (Str × β)) : (l.map g).flatten.Sublist ((upsert k v f l).map g).flatten := by
  induction l with
  | nil => exact List.nil_sublist _
  | cons e es ih =>
    obtain ⟨p, w⟩ := e
    simp only [upsert]
    split
    · exact List.sublist_append_right _ _
    · split
      · exact (hf p w).append (List.Sublist.refl _)
      · exact (List.Sublist.refl _).append ih

end

theorem insertSorted_mem (x : Str) (l : List Str) (y : Str) : y ∈ insertSorted x l ↔ y = x ∨ y ∈ l := by
  induction l with
  | nil => simp [insertSorted]
  | cons z zs ih =>
    simp only [insertSorted]
    split
    · simp
    · split
      · rename_i h; subst h; simp
      · simp only [List.mem_cons, ih]; exact or_left_comm

theorem sublist_insertSorted (x : Str) (l : List Str) : l.Sublist (insertSorted x l) := by
  induction l with
  | nil => exact List.nil_sublist _
  | cons y ys ih =>
    simp only [insertSorted]
    split
    · exact List.sublist_cons_self x _
    · split
      · exact List.Sublist.refl _
      · exact ih.cons_cons y

theorem insertSorted_sorted (x : Str) (l : List Str) (h : SortedS l) : SortedS (insertSorted x l) := by
  induction l with
  | nil => simp [insertSorted, SortedS]
  | cons z zs ih =>
    obtain ⟨hz, hs⟩ := List.pairwise_cons.mp h
    simp only [insertSorted]
    split
    · rename_i hxz
      refine List.pairwise_cons.mpr ⟨fun w hw => ?_, h⟩
      rcases List.mem_cons.mp hw with rfl | hw
      · exact hxz
      · exact ltStr_trans hxz (hz w hw)
    · rename_i hxz
      split
      · exact h
      · rename_i hne
        refine List.pairwise_cons.mpr ⟨fun w hw => ?_, ih hs⟩
        rcases (insertSorted_mem x zs w).mp hw with rfl | hw
        · exact (ltStr_total hne).resolve_left hxz
        · exact hz w hw

/-- (a set of strings is the keys of a map to `Unit`) -/
theorem insertSorted_comm (x y : Str) (l : List Str) :
    insertSorted x (insertSorted y l) = insertSorted y (insertSorted x l) := by
  by_cases h : x = y
  · rw [h]
  · simpa [keys_upsert, Function.comp_def] using congrArg (List.map (·.1)) (upsert_comm h () () id id (l.map (·, ())))

abbrev insertAllS (xs acc : List Str) : List Str := xs.foldl (fun a x => insertSorted x a) acc

theorem sublist_insertAllS (xs acc : List Str) : acc.Sublist (insertAllS xs acc) :=
  List.foldlRecOn xs _ (List.Sublist.refl acc) fun a h x _ => h.trans (sublist_insertSorted x a)

theorem foldl_insertSorted_sorted (xs acc : List Str) (h : SortedS acc) : SortedS (insertAllS xs acc) :=
  List.foldlRecOn xs _ h fun a h x _ => insertSorted_sorted x a h

theorem foldl_insertSorted_mem (xs acc : List Str) (y : Str) : y ∈ insertAllS xs acc ↔ y ∈ xs ∨ y ∈ acc := by
  induction xs generalizing acc with
  | nil => simp
  | cons x xs ih => simp only [insertAllS, List.foldl_cons, List.mem_cons] at ih ⊢; rw [ih, insertSorted_mem, or_left_comm, or_assoc]

theorem foldl_insertSorted_perm {xs ys : List Str} (h : xs.Perm ys) (acc : List Str) : insertAllS xs acc = insertAllS ys acc :=
  h.foldl_eq' (fun x _ y _ z => insertSorted_comm y x z) acc

theorem foldl_insertSorted_append : ∀ (xs acc : List Str), SortedS (acc ++ xs) → insertAllS xs acc = acc ++ xs
  | [], acc, _ => by simp
  | x :: xs, acc, h => by
    have hx : ∀ e ∈ acc.map (·, ()), ltStr e.1 x = true := fun e he => by
      obtain ⟨a, ha, rfl⟩ := List.mem_map.mp he; exact (List.pairwise_append.mp h).2.2 a ha x (by simp)
    have : insertSorted x acc = acc ++ [x] := by
      simpa [keys_upsert, Function.comp_def, upsert] using congrArg (List.map (·.1)) (upsert_append (v := ()) (f := id) hx [])
    rw [insertAllS, List.foldl_cons, this]
    simpa using foldl_insertSorted_append xs (acc ++ [x]) (by simpa using h)

end TsRs.Text
