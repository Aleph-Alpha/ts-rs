import TsRsVerif.Model.Fs
import TsRsVerif.Lemmas.ListLemmas
/-!
The file-system model, operation by operation: what `set`, path resolution, `File::create`, `open` and `create_dir_all` do to
`lookup`.
-/
namespace TsRs.Fs

theorem lookup_nil (fs : Fs) : fs.lookup [] = some .dir := by simp [lookup]

theorem lookup_set_self (fs : Fs) {l : Loc} (n : Node) (hl : l ≠ []) : (fs.set l n).lookup l = some n := by
  simp [lookup, set, hl]

/-- also at the root, which is a directory on both sides -/
theorem lookup_set_ne (fs : Fs) {l l' : Loc} (n : Node) (h : l' ≠ l) : (fs.set l n).lookup l' = fs.lookup l' := by
  unfold lookup set
  split
  · rfl
  · have hne : decide (l = l') = false := by simpa using fun e : l = l' => h e.symm
    simp only [List.find?, hne, find_filter_ne fs.nodes l l' h]

theorem set_set (fs : Fs) (l : Loc) (a b : Node) : (fs.set l a).set l b = fs.set l b := by
  unfold set
  simp only [List.filter_cons, ne_eq, not_true_eq_false, decide_false, Bool.false_eq_true, ↓reduceIte, List.filter_filter]
  congr 2
  apply List.filter_congr
  intro x _
  simp

theorem isDir_set_file (fs : Fs) (l : Loc) (c : Str) (hnd : fs.lookup l ≠ some .dir) (l' : Loc) :
    (fs.set l (.file c)).isDir l' = fs.isDir l' := by
  unfold isDir
  by_cases h : l' = l
  · subst h
    by_cases h0 : l' = []
    · exact absurd (h0 ▸ lookup_nil fs) hnd
    · simp [lookup_set_self fs _ h0, hnd]
  · rw [lookup_set_ne fs _ h]

theorem walk_congr (a b : Fs) (h : ∀ l, a.isDir l = b.isDir l) (cs : List Comp) (cur : Loc) : walk a cur cs = walk b cur cs := by
  induction cs generalizing cur with
  | nil => rfl
  | cons c cs ih => cases c <;> simp only [walk, h cur, ih]

theorem resolve_congr (a b : Fs) (hc : a.cwd = b.cwd) (hd : ∀ l, a.isDir l = b.isDir l) (p : Str) : a.resolve p = b.resolve p := by
  unfold resolve; rw [hc]; exact walk_congr a b hd _ _

theorem resolve_set_file (fs : Fs) (l : Loc) (c : Str) (hnd : fs.lookup l ≠ some .dir) (p : Str) :
    (fs.set l (.file c)).resolve p = fs.resolve p :=
  resolve_congr (fs.set l (.file c)) fs rfl (isDir_set_file fs l c hnd) p

theorem walk_append (fs : Fs) (cs cs' : List Comp) (cur : Loc) : walk fs cur (cs ++ cs') = (walk fs cur cs).bind (walk fs · cs') := by
  induction cs generalizing cur with
  | nil => rfl
  | cons c cs ih =>
    cases c with
    | root => simp only [List.cons_append, walk, ih]
    | cur => simp only [List.cons_append, walk, ih]; split <;> rfl
    | parent => simp only [List.cons_append, walk, ih]; split <;> rfl
    | normal n => simp only [List.cons_append, walk, ih]; split <;> rfl

/-- `File::create(p)` can succeed, and writes at `l` -/
structure CanCreate (fs : Fs) (p : Str) (l : Loc) : Prop where
  resolves : fs.resolve p = some l
  nonroot : l ≠ []
  parent : fs.isDir l.dropLast = true
  notdir : fs.lookup l ≠ some .dir

theorem fileCreate_eq_some (fs : Fs) (p text : Str) (fs' : Fs) :
    fs.fileCreate p text = some fs' ↔ ∃ l, CanCreate fs p l ∧ fs' = fs.set l (.file text) := by
  constructor
  · fun_cases fileCreate fs p text with
    | case1 | case2 | case3 | case4 => exact nofun
    | case5 l hl hr hd hnd => exact fun h => ⟨l, ⟨hr, hl, by simpa using hd, hnd⟩, (Option.some.inj h).symm⟩
  · rintro ⟨l, ⟨hr, hl, hd, hnd⟩, rfl⟩
    cases l with
    | nil => exact absurd rfl hl
    | cons a as => simp only [fileCreate, hr, hd, Bool.not_true, Bool.false_eq_true, if_false]

theorem fileCreate_isSome (fs : Fs) (p text : Str) : (fs.fileCreate p text).isSome ↔ ∃ l, CanCreate fs p l := by
  simp only [Option.isSome_iff_exists, fileCreate_eq_some]
  exact ⟨fun ⟨_, l, h, _⟩ => ⟨l, h⟩, fun ⟨l, h⟩ => ⟨_, l, h, rfl⟩⟩

theorem openRead_eq_some (fs : Fs) (p : Str) (l : Loc) (c : Str) :
    fs.openRead p = some (l, c) ↔ fs.resolve p = some l ∧ fs.lookup l = some (.file c) := by
  constructor
  · fun_cases openRead fs p with
    | case1 | case3 => exact nofun
    | case2 l' hr c' hl => rintro ⟨⟩; exact ⟨hr, hl⟩
  · rintro ⟨hr, hl⟩
    simp only [openRead, hr, hl]

theorem openRead_spec (fs : Fs) (p : Str) (l : Loc) (c : Str) (h : fs.openRead p = some (l, c)) :
    l ≠ [] ∧ fs.resolve p = some l ∧ fs.lookup l = some (.file c) := by
  obtain ⟨h1, h2⟩ := (openRead_eq_some fs p l c).mp h
  exact ⟨fun e => by rw [e, lookup_nil] at h2; (cases h2), h1, h2⟩

/-- same regular files (directories may have been added) -/
def FilesEq (a b : Fs) : Prop := ∀ l c, a.lookup l = some (.file c) ↔ b.lookup l = some (.file c)

theorem FilesEq.refl (a : Fs) : FilesEq a a := fun _ _ => Iff.rfl

/-- one name of the path: the rest runs from `fs1`, which is `fs` with the directory `cur ++ [n]` found or made -/
theorem createDirAllAux_normal {fs : Fs} {cur : Loc} {n : Str} {cs : List Comp} {fs' : Fs}
    (h : createDirAllAux fs cur (Comp.normal n :: cs) = some fs') :
    ∃ fs1, createDirAllAux fs1 (cur ++ [n]) cs = some fs' ∧ fs1.cwd = fs.cwd ∧ fs1.lookup (cur ++ [n]) = some .dir ∧
      (fs.lookup (cur ++ [n]) = none ∨ fs.lookup (cur ++ [n]) = some .dir) ∧ ∀ l, l ≠ cur ++ [n] → fs1.lookup l = fs.lookup l := by
  simp only [createDirAllAux] at h
  cases hx : fs.lookup (cur ++ [n]) with
  | none => simp only [hx] at h; exact ⟨_, h, rfl, lookup_set_self fs _ (by simp), .inl rfl, fun _ hl => lookup_set_ne fs _ hl⟩
  | some nd =>
    cases nd with
    | dir => simp only [hx] at h; exact ⟨fs, h, rfl, hx, .inr rfl, fun _ _ => rfl⟩
    | file c => simp [hx] at h

theorem createDirAllAux_change (cs : List Comp) : ∀ (fs : Fs) (cur : Loc) (fs' : Fs), createDirAllAux fs cur cs = some fs' →
    fs'.cwd = fs.cwd ∧ ∀ l, fs'.lookup l = fs.lookup l ∨ (fs.lookup l = none ∧ fs'.lookup l = some .dir) := by
  induction cs with
  | nil => intro fs cur fs' h; simp only [createDirAllAux, Option.some.injEq] at h; subst h; exact ⟨rfl, fun _ => Or.inl rfl⟩
  | cons c cs ih =>
    intro fs cur fs' h
    cases c with
    | root => exact ih fs [] fs' (by simpa [createDirAllAux] using h)
    | cur => exact ih fs cur fs' (by simpa [createDirAllAux] using h)
    | parent => exact ih fs cur.dropLast fs' (by simpa [createDirAllAux] using h)
    | normal n =>
      obtain ⟨fs1, h1, hc, hd, hwas, hsame⟩ := createDirAllAux_normal h
      obtain ⟨hc1, h2⟩ := ih _ _ _ h1
      refine ⟨hc1.trans hc, fun l => ?_⟩
      by_cases e : l = cur ++ [n]
      · subst e
        have hd' : fs'.lookup (cur ++ [n]) = some .dir := by
          rcases h2 (cur ++ [n]) with h | ⟨h, _⟩
          · rw [h, hd]
          · rw [hd] at h; cases h
        exact hwas.elim (fun hw => .inr ⟨hw, hd'⟩) (fun hw => .inl (hd'.trans hw.symm))
      · rw [← hsame l e]; exact h2 l

theorem createDirAll_change (fs : Fs) (p : Str) (fs' : Fs) (h : fs.createDirAll p = some fs') :
    fs'.cwd = fs.cwd ∧ ∀ l, fs'.lookup l = fs.lookup l ∨ (fs.lookup l = none ∧ fs'.lookup l = some .dir) := by
  unfold createDirAll at h
  split at h
  · simp only [Option.some.injEq] at h; subst h; exact ⟨rfl, fun _ => Or.inl rfl⟩
  · exact createDirAllAux_change _ _ _ _ h

theorem createDirAll_frame (fs : Fs) (p : Str) (fs' : Fs) (h : fs.createDirAll p = some fs') :
    FilesEq fs fs' ∧ fs'.cwd = fs.cwd := by
  obtain ⟨h1, h2⟩ := createDirAll_change fs p fs' h
  refine ⟨fun l c => ?_, h1⟩
  rcases h2 l with e | ⟨e1, e2⟩
  · rw [e]
  · rw [e1, e2]; simp

theorem createDirAllAux_mono (cs : List Comp) (fs : Fs) (cur : Loc) (fs' : Fs) (h : createDirAllAux fs cur cs = some fs')
    (l : Loc) (hl : fs.lookup l = some .dir) : fs'.lookup l = some .dir := by
  rcases (createDirAllAux_change cs fs cur fs' h).2 l with e | ⟨e, _⟩
  · rw [e, hl]
  · rw [hl] at e; cases e

theorem createDirAllAux_idem (cs : List Comp) : ∀ (fs : Fs) (cur : Loc) (fs' : Fs),
    createDirAllAux fs cur cs = some fs' → ∀ g : Fs, (∀ l, fs'.lookup l = some .dir → g.lookup l = some .dir) →
    createDirAllAux g cur cs = some g := by
  induction cs with
  | nil => intro fs cur fs' _ g _; simp [createDirAllAux]
  | cons c cs ih =>
    intro fs cur fs' h g hg
    cases c with
    | root => simpa [createDirAllAux] using ih fs [] fs' (by simpa [createDirAllAux] using h) g hg
    | cur => simpa [createDirAllAux] using ih fs cur fs' (by simpa [createDirAllAux] using h) g hg
    | parent => simpa [createDirAllAux] using ih fs cur.dropLast fs' (by simpa [createDirAllAux] using h) g hg
    | normal n =>
      obtain ⟨fs1, h1, _, hd1, _, _⟩ := createDirAllAux_normal h
      simp only [createDirAllAux, hg _ (createDirAllAux_mono cs _ _ _ h1 _ hd1)]
      exact ih fs1 _ fs' h1 g hg

theorem createDirAll_idem (fs : Fs) (p : Str) (fs' : Fs) (h : fs.createDirAll p = some fs') (g : Fs) (hcwd : g.cwd = fs.cwd)
    (hg : ∀ l, fs'.lookup l = some .dir → g.lookup l = some .dir) : g.createDirAll p = some g := by
  unfold createDirAll at h ⊢
  split at h
  · rename_i hp; simp [hp]
  · rename_i hp
    simp only [hp, if_false, hcwd]
    exact createDirAllAux_idem _ _ _ _ h g hg

/-- what `create_dir_all` of a chain of names changes: nothing but directories at the prefixes of the chain -/
theorem createDirAllAux_lookup (ns : List Str) : ∀ (fs : Fs) (cur : Loc) (fs' : Fs),
    createDirAllAux fs cur (ns.map Comp.normal) = some fs' →
    ∀ l, fs'.lookup l = fs.lookup l ∨ (fs'.lookup l = some .dir ∧ ∃ k, k ≤ ns.length ∧ 0 < k ∧ l = cur ++ ns.take k) := by
  induction ns with
  | nil =>
    intro fs cur fs' h l
    simp only [List.map_nil, createDirAllAux, Option.some.injEq] at h
    subst h; exact Or.inl rfl
  | cons n ns ih =>
    intro fs cur fs' h l
    obtain ⟨fs1, h1, _, hd1, _, hsame⟩ := createDirAllAux_normal h
    rcases ih _ _ _ h1 l with e | ⟨e, k, hk, _, hl⟩
    · by_cases hl : l = cur ++ [n]
      · exact Or.inr ⟨by rw [e, hl, hd1], 1, by simp, by simp, by simp [hl]⟩
      · exact Or.inl (by rw [e, hsame l hl])
    · exact Or.inr ⟨e, k + 1, by simp; omega, by omega, by simp [hl]⟩

/-- `create_dir_all` succeeds when no regular file stands on the chain -/
theorem createDirAllAux_succeeds (ns : List Str) : ∀ (fs : Fs) (cur : Loc),
    (∀ k, 0 < k → k ≤ ns.length → ∀ c, fs.lookup (cur ++ ns.take k) ≠ some (.file c)) →
    ∃ fs', createDirAllAux fs cur (ns.map Comp.normal) = some fs' := by
  induction ns with
  | nil => intro fs cur _; exact ⟨fs, by simp [createDirAllAux]⟩
  | cons n ns ih =>
    intro fs cur h
    have hk : ∀ k, k ≤ ns.length → ∀ c, fs.lookup (cur ++ [n] ++ ns.take k) ≠ some (.file c) := fun k hkl c => by
      simpa using h (k + 1) (by omega) (by simp; omega) c
    simp only [List.map_cons, createDirAllAux]
    cases hx : fs.lookup (cur ++ [n]) with
    | none =>
      refine ih _ _ fun k _ hkl c => ?_
      by_cases he : cur ++ [n] ++ ns.take k = cur ++ [n]
      · rw [he, lookup_set_self fs _ (by simp)]; simp
      · rw [lookup_set_ne fs _ he]; exact hk k hkl c
    | some nd =>
      cases nd with
      | file c => exact absurd hx (by simpa using hk 0 (by omega) c)
      | dir => exact ih _ _ fun k _ hkl c => hk k hkl c

theorem createDirAllAux_walk (ns : List Str) : ∀ (fs : Fs) (cur : Loc) (fs' : Fs), fs.isDir cur = true →
    createDirAllAux fs cur (ns.map Comp.normal) = some fs' →
    walk fs' cur (ns.map Comp.normal) = some (cur ++ ns) ∧ fs'.isDir (cur ++ ns) = true := by
  induction ns with
  | nil =>
    intro fs cur fs' hd h
    simp only [List.map_nil, createDirAllAux, Option.some.injEq] at h
    subst h
    simp [walk, hd]
  | cons n ns ih =>
    intro fs cur fs' hd h
    have hcur' : fs'.isDir cur = true := by
      simpa [isDir] using createDirAllAux_mono _ fs cur fs' h cur (by simpa [isDir] using hd)
    obtain ⟨fs1, h1, _, hd1, _, _⟩ := createDirAllAux_normal h
    simpa [walk, hcur'] using ih _ _ _ (by simpa [isDir] using hd1) h1

end TsRs.Fs
