import TsRsVerif.Lemmas.MemberLemmas
/-! Denotational facts behind C14: a reference denotes what its unfolded body denotes; congruences for arrays, parentheses and
    unions; an exact object with distinct property names is a set of entries (`member_obj_iff_of_nodup`), from which
    `C14_flatten_is_merge` reads off that an intersection of two such objects denotes what the merged object denotes. -/
namespace TsRs.Ts

theorem member_ref_iff (D : Decls) (n : Str) (args : List Ts) (ps : List Str) (body : Ts) (j : JVal)
    (hl : lookupDecl D n = some (ps, body)) :
    Member D (.ref n args) j ↔ Member D (subst (ps.zip args) body) j :=
  ⟨fun h => by cases h with | ref hl' hm => cases hl.symm.trans hl'; exact hm, .ref hl⟩

theorem member_paren_iff (D : Decls) (t : Ts) (j : JVal) : Member D (.paren t) j ↔ Member D t j :=
  ⟨fun h => by cases h with | paren hm => exact hm, .paren⟩

theorem member_union_single (D : Decls) (t : Ts) (j : JVal) : Member D (.union [t]) j ↔ Member D t j :=
  ⟨fun h => by cases h with | union hin hm => cases List.mem_singleton.1 hin; exact hm, .union (List.mem_singleton.2 rfl)⟩

theorem member_union_mono {D : Decls} {a b : List Ts} {j : JVal} (h : ∀ x ∈ a, x ∈ b) (m : Member D (.union a) j) : Member D (.union b) j := by
  cases m with | union hx m => exact .union (h _ hx) m

theorem member_array_iff (D : Decls) (t : Ts) (js : List JVal) : Member D (.array t) (.arr js) ↔ MemberAll D t js :=
  ⟨fun h => by cases h with | array hm => exact hm, .array⟩

theorem member_array_congr (D : Decls) (t t' : Ts) (h : ∀ j, Member D t j ↔ Member D t' j) (j : JVal) :
    Member D (.array t) j ↔ Member D (.array t') j :=
  ⟨fun m => by cases m with | array ha => exact .array (ha.imp fun x => (h x).1),
   fun m => by cases m with | array ha => exact .array (ha.imp fun x => (h x).2)⟩

theorem member_union_cons_congr (D : Decls) (t t' : Ts) (ts : List Ts) (h : ∀ j, Member D t j ↔ Member D t' j) (j : JVal) :
    Member D (.union (t :: ts)) j ↔ Member D (.union (t' :: ts)) j := by
  have arm : ∀ {a b : Ts}, (Member D a j → Member D b j) → Member D (.union (a :: ts)) j → Member D (.union (b :: ts)) j := by
    intro a b hab m
    cases m with
    | union hin hm =>
      rcases List.mem_cons.1 hin with rfl | hin
      · exact .union (List.mem_cons_self ..) (hab hm)
      · exact .union (List.mem_cons_of_mem _ hin) hm
  exact ⟨arm (h j).1, arm (h j).2⟩

def namesOf (fs : List (TsKey × Ts)) : List Str := fs.map (·.1.name)

theorem mem_namesOf_append {k : Str} {A B : List (TsKey × Ts)} : k ∈ namesOf (A ++ B) ↔ k ∈ namesOf A ∨ k ∈ namesOf B := by
  rw [namesOf, List.map_append, List.mem_append]; rfl

/-- with distinct keys `lookup` is membership: an exact object is a set of entries -/
theorem member_obj_iff_of_nodup {D : Decls} {fs : List (TsKey × Ts)} {kvs : List (Str × JVal)} (hnd : (kvs.map (·.1)).Nodup) :
    Member D (.obj fs) (.obj kvs) ↔
      (∀ f ∈ fs, (∃ v, (f.1.name, v) ∈ kvs ∧ Member D f.2 v) ∨ (f.1.name ∉ kvs.map (·.1) ∧ f.1.optional = true)) ∧
      ∀ kv ∈ kvs, kv.1 ∈ namesOf fs := by
  constructor
  · intro h
    cases h with
    | obj hf hk =>
      refine ⟨fun f hfm => (hf.fieldsP f hfm).imp (fun ⟨v, hl, hv⟩ => ⟨v, lookup_some_mem hl, hv⟩) fun ⟨hl, ho⟩ => ⟨lookup_eq_none_iff.1 hl, ho⟩,
        fun kv hkv => ?_⟩
      obtain ⟨f, hfm, e⟩ := hk kv.1 (List.mem_map_of_mem hkv)
      exact List.mem_map.2 ⟨f, hfm, e⟩
  · rintro ⟨hf, hk⟩
    refine .obj (memberFields_iff.2 fun f hfm => (hf f hfm).imp (fun ⟨v, hm, hv⟩ => ⟨v, lookup_of_mem_nodup hnd hm, hv⟩)
      fun ⟨hn, ho⟩ => ⟨lookup_eq_none_iff.2 hn, ho⟩) fun k hkm => ?_
    obtain ⟨kv, hkv, rfl⟩ := List.mem_map.1 hkm
    obtain ⟨f, hfm, e⟩ := List.mem_map.1 (hk kv hkv)
    exact ⟨f, hfm, e⟩

end TsRs.Ts
