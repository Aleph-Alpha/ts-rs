import TsRsVerif.Lemmas.ExportLemmas
import TsRsVerif.Lemmas.WalkSeq
/-! The current directory never changes; the walk depends on the directory only through `absolute`. -/
namespace TsRs.Export
open TsRs.Fs

theorem set_cwd (fs : Fs) (l : Loc) (n : Node) : (fs.set l n).cwd = fs.cwd := rfl

theorem exportTo_cwd (w : World) (t : TyInfo) (p : Str) : (exportTo w t p).1.fs.cwd = w.fs.cwd := by
  rcases exportTo_cases w t p with ⟨e, h⟩ | ⟨path, text, fs', _, _, hfs, h⟩ <;> rw [h]
  rw [(exportAndMerge_dirs ..).1]
  rcases hfs with ⟨_, rfl⟩ | ⟨par, _, hc⟩
  · rfl
  · exact (createDirAll_frame _ _ _ hc).2

theorem exportInto_cwd {w w' : World} {t : TyInfo} {d : Str} {o : Outcome} (h : exportInto w t d = (w', o)) : w'.fs.cwd = w.fs.cwd := by
  have : (exportInto w t d).1.fs.cwd = w.fs.cwd := by
    cases ho : t.outputPath with
    | none => simp [exportInto, ho]
    | some op => rw [exportInto_join w t d op ho]; exact exportTo_cwd _ _ _
  rwa [h] at this

/-- two directory spellings are equivalent below the current directory `c` -/
def SameDir (c : Loc) (d d' : Str) : Prop :=
  ∀ op, Path.absolute ('/' :: Text.intercalate ['/'] c) (Path.join d op)
      = Path.absolute ('/' :: Text.intercalate ['/'] c) (Path.join d' op)

theorem exportInto_spelling (w : World) (t : TyInfo) (d d' : Str) (h : SameDir w.fs.cwd d d') :
    exportInto w t d = exportInto w t d' := by
  cases ho : t.outputPath with
  | none => simp only [exportInto, ho]
  | some op => simp only [exportInto, ho, cwdStr, h op]

theorem Walk.cwd {u : Universe} {dir : Str} {g : Goal} {w w' : World} {seen seen' : List Nat} {o : Outcome}
    (h : Walk u dir g w seen w' seen' o) : w'.fs.cwd = w.fs.cwd := by
  induction h with
  | seen _ => rfl
  | fail _ _ hex _ => exact exportInto_cwd hex
  | visit _ _ hex _ ih => exact ih.trans (exportInto_cwd hex)
  | nil => rfl
  | skip _ _ _ ih => exact ih
  | next _ _ _ _ ih1 ih2 => exact ih2.trans ih1
  | stop _ _ _ _ ih => exact ih

theorem visitDeps_spelling (u : Universe) (c : Loc)
    (r r' : World → List Nat → Nat → Option WalkRes)
    (hr : ∀ w s d, w.fs.cwd = c → r w s d = r' w s d)
    (hc : ∀ w s d w' s' o, r w s d = some (w', s', o) → w'.fs.cwd = w.fs.cwd)
    (deps : List Nat) (w : World) (seen : List Nat) (hw : w.fs.cwd = c) :
    visitDeps u r deps w seen = visitDeps u r' deps w seen := by
  fun_induction visitDeps u r deps w seen with
  | case1 => rfl
  | case2 _ _ _ _ hu => simp only [visitDeps, hu]
  | case3 _ _ _ _ _ hu hn ih => simpa only [visitDeps, hu, hn, if_true] using ih hw
  | case4 d _ w seen _ hu hn h0 => simp only [visitDeps, hu, hn, Bool.false_eq_true, if_false, ← hr w seen d hw, h0]
  | case5 d _ w seen _ hu hn _ _ h0 ih =>
    simpa only [visitDeps, hu, hn, Bool.false_eq_true, if_false, ← hr w seen d hw, h0] using ih ((hc _ _ _ _ _ _ h0).trans hw)
  | case6 d _ w seen _ hu hn _ _ _ ho h0 => simp only [visitDeps, hu, hn, Bool.false_eq_true, if_false, ← hr w seen d hw, h0]

theorem exportRec_spelling (u : Universe) (c : Loc) (d d' : Str) (h : SameDir c d d')
    (fuel : Nat) (w : World) (seen : List Nat) (i : Nat) (hw : w.fs.cwd = c) :
    exportRec u fuel w seen d i = exportRec u fuel w seen d' i := by
  fun_induction exportRec u fuel w seen d i with
  | case1 => rfl
  | case2 _ _ _ _ _ hin => simp only [exportRec, hin, if_true]
  | case3 _ _ _ _ _ hin hu => simp only [exportRec, hin, if_false, hu]
  | case4 fuel w seen d i hin t hu w1 hex ih =>
    simp only [exportRec, hin, if_false, hu, ← exportInto_spelling w t d d' (hw ▸ h), hex]
    exact visitDeps_spelling u c _ _ (fun w2 s2 x => ih w2 s2 x h)
      (fun w2 s2 x w3 s3 o3 hr => (exportRec_walk u d fuel w2 s2 x w3 s3 o3 hr).cwd) t.deps w1 (i :: seen) ((exportInto_cwd hex).trans hw)
  | case5 _ w seen d _ hin t hu _ _ ho hex =>
    simp only [exportRec, hin, if_false, hu, ← exportInto_spelling w t d d' (hw ▸ h), hex]

end TsRs.Export
