import TsRsVerif.Model.Fs
import TsRsVerif.Lemmas.MergeLemmas
import TsRsVerif.Lemmas.ImportLemmas
import TsRsVerif.Lemmas.TextLemmas
/-! Byte lengths: `writeAt` (seek + write WITHOUT truncation) leaves nothing of the old file behind when the new
content is at least as long as the old one. It is, because `merge` only adds text: the old import block and the old declaration list are
subsequences (`List.Sublist`) of the new ones. -/
namespace TsRs.Fs
open TsRs.Text

theorem utf8Len_pos (c : Char) : 0 < utf8Len c := by
  unfold utf8Len; simp only; split <;> (try split) <;> (try split) <;> omega

@[simp] theorem byteLen_nil : byteLen [] = 0 := rfl
@[simp] theorem byteLen_cons (c : Char) (s : Str) : byteLen (c :: s) = utf8Len c + byteLen s := by
  simp [byteLen]
@[simp] theorem byteLen_append (a b : Str) : byteLen (a ++ b) = byteLen a + byteLen b := by
  simp [byteLen]

theorem takeBytes_cons {n : Nat} (h : 0 < n) (c : Char) (cs : Str) : takeBytes n (c :: cs) = c :: takeBytes (n - utf8Len c) cs := by
  cases n with
  | zero => cases h
  | succ n => rfl

theorem dropBytes_cons {n : Nat} (h : 0 < n) (c : Char) (cs : Str) : dropBytes n (c :: cs) = dropBytes (n - utf8Len c) cs := by
  cases n with
  | zero => cases h
  | succ n => rfl

theorem takeBytes_append_self : ∀ (a b : Str), takeBytes (byteLen a) (a ++ b) = a
  | [], b => by simp [takeBytes]
  | c :: a, b => by
    rw [List.cons_append, byteLen_cons, takeBytes_cons (Nat.add_pos_left (utf8Len_pos c) _), Nat.add_sub_cancel_left,
      takeBytes_append_self a b]

theorem dropBytes_all : ∀ (s : Str) (n : Nat), byteLen s ≤ n → dropBytes n s = []
  | [], n, _ => by cases n <;> rfl
  | c :: s, n, h => by
    rw [byteLen_cons] at h
    rw [dropBytes_cons (Nat.lt_of_lt_of_le (Nat.add_pos_left (utf8Len_pos c) _) h), dropBytes_all s _ (by omega)]

theorem dropBytes_append_self : ∀ (a b : Str) (k : Nat), dropBytes (byteLen a + k) (a ++ b) = dropBytes k b
  | [], b, k => by simp
  | c :: a, b, k => by
    rw [List.cons_append, byteLen_cons, dropBytes_cons (Nat.add_pos_left (Nat.add_pos_left (utf8Len_pos c) _) _), Nat.add_assoc,
      Nat.add_sub_cancel_left, dropBytes_append_self a b k]

/-- seek past the notice and write: nothing of the old content survives when the new content is not shorter -/
theorem writeAt_prefix (pre old new : Str) (h : byteLen old ≤ byteLen new) :
    writeAt (pre ++ old) (byteLen pre) new = pre ++ new := by
  unfold writeAt
  rw [takeBytes_append_self, dropBytes_append_self, dropBytes_all old _ h]
  simp

theorem byteLen_flatten (ls : List Str) : byteLen ls.flatten = (ls.map byteLen).sum := by
  induction ls with
  | nil => rfl
  | cons l ls ih => simp [ih]

theorem byteLen_le_of_sublist {a b : Str} (h : a.Sublist b) : byteLen a ≤ byteLen b := by
  induction h with
  | slnil => exact Nat.le_refl _
  | cons c _ ih => rw [byteLen_cons]; omega
  | cons_cons c _ ih => rw [byteLen_cons, byteLen_cons]; omega

end TsRs.Fs

namespace TsRs.Merge
open TsRs.Text TsRs.Fs

theorem renderImports_sublist_addLine (m : Imports) (l : Str × List Str) : (renderImports m).Sublist (renderImports (addLine m l)) := by
  rw [addLine_eq]
  refine flatten_map_upsert_sublist _ (fun p w => ?_) m
  simp only [List.append_sublist_append_right, List.append_sublist_append_left]
  exact intercalate_sublist _ (sublist_insertAllS l.2 w)

theorem renderImports_sublist_foldl (ls : List (Str × List Str)) (m : Imports) :
    (renderImports m).Sublist (renderImports (ls.foldl addLine m)) :=
  List.foldlRecOn ls addLine (motive := fun m' => (renderImports m).Sublist (renderImports m')) (List.Sublist.refl _)
    fun m' h l _ => h.trans (renderImports_sublist_addLine m' l)

theorem renderDecls_sublist_insertByName (n d : Str) (bs : List (Str × Str)) :
    (renderDecls (bs.map (·.2))).Sublist (renderDecls ((insertByName n d bs).map (·.2))) := by
  simp only [renderDecls, List.map_map, insertByName_eq]
  exact flatten_map_upsert_sublist _ (fun _ _ => List.Sublist.refl _) bs

end TsRs.Merge
