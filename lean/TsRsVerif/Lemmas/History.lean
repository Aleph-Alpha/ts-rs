import TsRsVerif.Lemmas.MergeLemmas
import TsRsVerif.Lemmas.MergeText
import TsRsVerif.Lemmas.ImportLine
import TsRsVerif.Lemmas.ImportLemmas
import TsRsVerif.Lemmas.ByteLen
import TsRsVerif.Lemmas.LitChars
/-!
# A file as a function of the set of exports written into it (text level)

`FileSt` is the abstract content of a shared file: the import map and the name-sorted blocks. `fileText` renders it.
`merge` followed by the seek-and-write of `export_and_merge` is `FileSt.add` on that abstraction (`merge_step`, `write_step`), the result
is again of the shape the step asks for (`StOK` is an invariant), and the state reached by any sequence of exports is
`canonSt` of the sequence, which does not depend on the order (`canonSt_perm`).
-/
namespace TsRs
open Text Merge Fs

theorem mapM_parse_lines (imps : List (Str × List Str)) (h : ∀ x ∈ imps, PathOK x.1 ∧ x.2 ≠ [] ∧ ∀ t ∈ x.2, NameOK t) :
    (imps.map fun x => renderLine x.1 x.2).mapM parseImportLine = some imps := by
  simpa using mapM_map_eq_some (r := id) (l := imps) fun x hx => parse_render_line x.1 x.2 (h x hx).1 (h x hx).2.1 (h x hx).2.2

theorem merge_text_full (note : Str) (impO impN : List (Str × List Str)) (blocks : List (Str × Str)) (n d : Str)
    (hnote : LineOK note)
    (hO : ∀ x ∈ impO, PathOK x.1 ∧ x.2 ≠ [] ∧ ∀ t ∈ x.2, NameOK t) (hN : ∀ x ∈ impN, PathOK x.1 ∧ x.2 ≠ [] ∧ ∀ t ∈ x.2, NameOK t)
    (hlO : ∀ x ∈ impO, LineOK (renderLine x.1 x.2)) (hlN : ∀ x ∈ impN, LineOK (renderLine x.1 x.2))
    (hne : blocks ≠ []) (hb : ∀ b ∈ blocks, BlockOK b.1 b.2) (hnew : BlockOK n d) (hfresh : ∀ x ∈ blocks, x.1 ≠ n) :
    merge (header note (impO.map fun x => renderLine x.1 x.2) ++ '\n' :: '\n' :: declsText (blocks.map (·.2)))
          (header note (impN.map fun x => renderLine x.1 x.2) ++ '\n' :: '\n' :: (d ++ ['\n']))
      = .ok (renderImports ((impO ++ impN).foldl addLine []) ++ renderDecls ((insertByName n d blocks).map (·.2))) := by
  have hlO' : ∀ l ∈ impO.map (fun x => renderLine x.1 x.2), LineOK l := List.forall_mem_map.mpr hlO
  have hlN' : ∀ l ∈ impN.map (fun x => renderLine x.1 x.2), LineOK l := List.forall_mem_map.mpr hlN
  rw [merge_text _ _ blocks n d (impO ++ impN) (noMatch_header note _ hnote hlO') (noMatch_header note _ hnote hlN') hne hb hnew ?_,
    loop_is_sorted_insert n d blocks hfresh]
  rw [lines_header note _ hnote hlO', lines_header note _ hnote hlN']
  simp only [List.drop_succ_cons, List.drop_zero]
  rw [← List.map_append]
  exact mapM_parse_lines (impO ++ impN) (List.forall_mem_append.mpr ⟨hO, hN⟩)

/-- what one export contributes: the declared name, the import lines `generate_imports` wrote, the declaration block -/
structure GenT where
  /-- `T::ident()`: the key under which the export registry records the type -/
  ident : Str
  /-- the name `merge` reads back from the declaration (`Name` or `Name<T, ..>`): the sort key of the blocks -/
  name : Str
  imps : Imports
  decl : Str

/-- the abstract content of a shared file: the import map `merge` keeps and the declaration blocks by name -/
structure FileSt where
  imps : Imports
  blocks : List (Str × Str)

/-- the notice without its line break -/
def noteLine : Str := NOTE.dropLast

theorem NOTE_eq : NOTE = noteLine ++ ['\n'] := by unfold noteLine NOTE Gen.NOTE; lit_chars; rfl

theorem noteLine_ok : LineOK noteLine := by
  have h : (!noteLine.isEmpty && noteLine.all (fun c => c != '\n') && (noteLine.getLast? != some '\r')) = true := by
    unfold noteLine NOTE Gen.NOTE; lit_chars; decide +kernel
  simp only [Bool.and_eq_true, Bool.not_eq_true', List.all_eq_true, bne_iff_ne, ne_eq] at h
  exact ⟨fun e => by simp [e] at h, fun hm => h.1.2 _ hm rfl, h.2⟩

def lineOf (x : Str × List Str) : Str := renderLine x.1 x.2

/-- the file as `merge` leaves it: notice, one line per import entry, a blank line, the blocks separated by blank lines -/
def fileText (s : FileSt) : Str :=
  header noteLine (s.imps.map lineOf) ++ '\n' :: '\n' :: declsText (s.blocks.map (·.2))

/-- the text `export_to_string` returns for one type -/
def genText (g : GenT) : Str := header noteLine (g.imps.map lineOf) ++ '\n' :: '\n' :: (g.decl ++ ['\n'])

def FileSt.single (g : GenT) : FileSt := ⟨g.imps, [(g.name, g.decl)]⟩

theorem genText_eq (g : GenT) : genText g = fileText (FileSt.single g) := rfl

/-- what `merge` does on the abstract content: the import lines read into the map, the block inserted by name -/
def FileSt.add (s : FileSt) (g : GenT) : FileSt :=
  ⟨(s.imps ++ g.imps).foldl addLine [], insertByName g.name g.decl s.blocks⟩

/-- one entry of an import block as it can be written on a line and read back -/
def EntryOK (x : Str × List Str) : Prop :=
  PathOK x.1 ∧ '\n' ∉ x.1 ∧ x.2 ≠ [] ∧ ∀ t ∈ x.2, NameOK t ∧ '\n' ∉ t

def ImpsOK (m : Imports) : Prop := ImportsWF m ∧ ∀ x ∈ m, EntryOK x

/-- the domain of the history theorems: a generated text that `merge` reads back as what was written (evaluated by the driver: `genTextInDomain`) -/
def GenOK (g : GenT) : Prop := ImpsOK g.imps ∧ BlockOK g.name g.decl

def StOK (s : FileSt) : Prop := ImpsOK s.imps ∧ s.blocks ≠ [] ∧ ∀ b ∈ s.blocks, BlockOK b.1 b.2

theorem lineOK_of_entry (x : Str × List Str) (h : EntryOK x) : LineOK (lineOf x) := by
  obtain ⟨_, hp, _, ht⟩ := h
  have hi : '\n' ∉ intercalate CS x.2 := not_mem_intercalate '\n' _ (by decide) x.2 fun t h' => (ht t h').2
  have hc : '\n' ∉ PRE ∧ ('\n' ∉ SEP ∧ '\n' ∉ ['"']) ∧ '\n' ∉ QEND := by unfold PRE SEP QEND; lit_chars; decide
  have hl : (lineOf x).getLast? = some ';' := by
    show (_ ++ QEND).getLast? = _
    rw [List.getLast?_append]; unfold QEND; lit_chars; rfl
  exact ⟨fun e => by simp [e] at hl, by simp only [lineOf, renderLine, List.mem_append, not_or]; exact ⟨⟨⟨⟨hc.1, hi⟩, hc.2.1⟩, hp⟩, hc.2.2⟩,
    by rw [hl]; decide⟩

theorem entry_parse_ok (x : Str × List Str) (h : EntryOK x) : PathOK x.1 ∧ x.2 ≠ [] ∧ ∀ t ∈ x.2, NameOK t :=
  ⟨h.1, h.2.2.1, fun t ht => (h.2.2.2 t ht).1⟩

theorem fileText_eq (s : FileSt) (hne : s.blocks ≠ []) :
    fileText s = NOTE ++ (renderImports s.imps ++ renderDecls (s.blocks.map (·.2))) := by
  have h : fileText s = header noteLine (s.imps.map lineOf) ++ ['\n'] ++ '\n' :: declsText (s.blocks.map (·.2)) := by simp [fileText]
  rw [h, header, intercalate_append_sep, ← renderDecls_eq_declsText _ (by simpa using hne), renderImports_lines, NOTE_eq]
  simp [lineOf, Function.comp_def]

theorem merge_step (s : FileSt) (g : GenT) (hs : StOK s) (hg : GenOK g) (hfresh : ∀ b ∈ s.blocks, b.1 ≠ g.name) :
    merge (fileText s) (genText g)
      = .ok (renderImports (s.add g).imps ++ renderDecls ((s.add g).blocks.map (·.2))) := by
  obtain ⟨⟨_, hse⟩, hne, hb⟩ := hs
  obtain ⟨⟨_, hge⟩, hnew⟩ := hg
  exact merge_text_full noteLine s.imps g.imps s.blocks g.name g.decl noteLine_ok
    (fun x hx => entry_parse_ok x (hse x hx)) (fun x hx => entry_parse_ok x (hge x hx))
    (fun x hx => lineOK_of_entry x (hse x hx)) (fun x hx => lineOK_of_entry x (hge x hx)) hne hb hnew hfresh

theorem add_blocks_ne (s : FileSt) (g : GenT) : (s.add g).blocks ≠ [] := by
  have h : g.name ∈ (s.add g).blocks.map (·.1) := by
    rw [FileSt.add, insertByName_eq, keys_upsert, insertSorted_mem]; exact .inl rfl
  exact fun e => by rw [e] at h; cases h

/-- seek past the notice, write the merged text: nothing of the old file is left behind, because `merge` only adds text (the old import
block and declaration list are subsequences of the new ones) -/
theorem write_step (s : FileSt) (g : GenT) (hs : StOK s) :
    writeAt (fileText s) (byteLen NOTE) (renderImports (s.add g).imps ++ renderDecls ((s.add g).blocks.map (·.2)))
      = fileText (s.add g) := by
  rw [fileText_eq s hs.2.1, fileText_eq (s.add g) (add_blocks_ne s g)]
  refine writeAt_prefix _ _ _ (byteLen_le_of_sublist (List.Sublist.append ?_ (renderDecls_sublist_insertByName g.name g.decl s.blocks)))
  simp only [FileSt.add, List.foldl_append]
  rw [foldl_addLine_self s.imps hs.1.1]
  exact renderImports_sublist_foldl g.imps s.imps

theorem addLine_entries {m : Imports} {l : Str × List Str} (hm : ∀ x ∈ m, EntryOK x) (hl : EntryOK l) :
    ∀ x ∈ addLine m l, EntryOK x := by
  obtain ⟨h1, h2, h3, h4⟩ := hl
  obtain ⟨t0, ht0⟩ := List.exists_mem_of_ne_nil _ h3
  -- the entry is old, or it carries the line's path and its names inserted into the old names (if any)
  have hnew : ∀ w : List Str, (∀ t ∈ w, NameOK t ∧ '\n' ∉ t) → EntryOK (l.1, insertAllS l.2 w) := fun w hw =>
    ⟨h1, h2, List.ne_nil_of_mem ((foldl_insertSorted_mem l.2 w t0).mpr (.inl ht0)),
      fun t ht => ((foldl_insertSorted_mem l.2 w t).mp ht).elim (h4 t) (hw t)⟩
  intro x hx
  rcases mem_addLine hx with hx | rfl | ⟨w, hw, rfl⟩
  · exact hm x hx
  · exact hnew [] (by simp)
  · exact hnew w (hm _ hw).2.2.2

theorem foldl_addLine_entries (ls : List (Str × List Str)) (hls : ∀ x ∈ ls, EntryOK x) : ∀ x ∈ ls.foldl addLine [], EntryOK x :=
  List.foldlRecOn ls addLine (motive := fun m => ∀ x ∈ m, EntryOK x) (by simp) fun _ hm l hl => addLine_entries hm (hls l hl)

theorem add_ok (s : FileSt) (g : GenT) (hs : StOK s) (hg : GenOK g) : StOK (s.add g) := by
  refine ⟨⟨foldl_addLine_wf _ [] (by simp [ImportsWF]), foldl_addLine_entries _ (List.forall_mem_append.mpr ⟨hs.1.2, hg.1.2⟩)⟩,
    add_blocks_ne s g, fun b hb => ?_⟩
  rcases insertByName_mem _ _ _ _ hb with h | h
  · subst h; exact hg.2
  · exact hs.2.2 b h

theorem single_ok (g : GenT) (hg : GenOK g) : StOK (FileSt.single g) :=
  ⟨hg.1, by simp [FileSt.single], by intro b hb; simp [FileSt.single] at hb; subst hb; exact hg.2⟩

/-- the content after exporting `gens`, defined from the list alone; it does not depend on the order (`canonSt_perm`) -/
def canonSt (gens : List GenT) : FileSt :=
  ⟨(gens.flatMap (·.imps)).foldl addLine [], gens.foldl (fun bs g => insertByName g.name g.decl bs) []⟩

theorem canonSt_single (g : GenT) (hg : GenOK g) : FileSt.single g = canonSt [g] := by
  simp only [FileSt.single, canonSt, List.flatMap_cons, List.flatMap_nil, List.append_nil, List.foldl_cons, List.foldl_nil, insertByName]
  rw [foldl_addLine_self g.imps hg.1.1]

theorem canonSt_snoc (gens : List GenT) (g : GenT) : (canonSt gens).add g = canonSt (gens ++ [g]) := by
  simp only [FileSt.add, canonSt, List.flatMap_append, List.flatMap_cons, List.flatMap_nil, List.append_nil, List.foldl_append,
    List.foldl_cons, List.foldl_nil]
  congr 1
  have := foldl_addLine_absorb (gens.flatMap (·.imps)) g.imps
  simpa [List.foldl_append] using this

theorem canonSt_ok_aux (gs pre : List GenT) (h : StOK (canonSt pre)) (hg : ∀ x ∈ gs, GenOK x) : StOK (canonSt (pre ++ gs)) := by
  induction gs generalizing pre with
  | nil => rwa [List.append_nil]
  | cons g gs ih =>
    rw [List.append_cons]
    exact ih (pre ++ [g]) (canonSt_snoc pre g ▸ add_ok _ g h (hg g List.mem_cons_self)) fun x hx => hg x (List.mem_cons_of_mem _ hx)

theorem canonSt_ok : ∀ (gens : List GenT), gens ≠ [] → (∀ x ∈ gens, GenOK x) → StOK (canonSt gens)
  | [], hne, _ => absurd rfl hne
  | g :: gens, _, h => by
    have := canonSt_ok_aux gens [g] (by rw [← canonSt_single g (h g (by simp))]; exact single_ok g (h g (by simp)))
      (fun x hx => h x (by simp [hx]))
    simpa using this

theorem canonSt_blocks (gens : List GenT) : (canonSt gens).blocks = insertAll (gens.map fun g => (g.name, g.decl)) := by
  simp only [canonSt, insertAll, List.foldl_map]

theorem canonSt_perm (g₁ g₂ : List GenT) (hp : g₁.Perm g₂) (hnd : (g₁.map (·.name)).Nodup) : canonSt g₁ = canonSt g₂ := by
  have hb : (canonSt g₁).blocks = (canonSt g₂).blocks := by
    rw [canonSt_blocks, canonSt_blocks, insertAll_perm (hp.map _) (by rw [List.map_map]; exact hnd)]
  simp only [canonSt] at hb ⊢
  rw [hb, foldl_addLine_perm (hp.flatMap_right _) []]

theorem canonSt_lossless (gens : List GenT) (hnd : (gens.map (·.name)).Nodup) :
    ((canonSt gens).blocks).Perm (gens.map fun g => (g.name, g.decl)) ∧ SortedN (canonSt gens).blocks := by
  rw [canonSt_blocks]
  exact insertAll_perm_sorted _ (by rw [List.map_map]; exact hnd)

/-- what a history into one file may export -/
structure GensOK (gens : List GenT) : Prop where
  genOK : ∀ x ∈ gens, GenOK x
  names : (gens.map (·.name)).Nodup
  idents : (gens.map (·.ident)).Nodup

theorem GensOK.left {a b : List GenT} (h : GensOK (a ++ b)) : GensOK a :=
  ⟨fun x hx => h.genOK x (List.mem_append_left _ hx), h.names.sublist ((List.sublist_append_left a b).map _),
   h.idents.sublist ((List.sublist_append_left a b).map _)⟩

theorem GensOK.perm {a b : List GenT} (hp : a.Perm b) (h : GensOK a) : GensOK b :=
  ⟨fun x hx => h.genOK x (hp.mem_iff.mpr hx), (hp.map _).nodup_iff.mp h.names, (hp.map _).nodup_iff.mp h.idents⟩

theorem genParts_genText (g : GenT) (hg : GenOK g) : genParts (genText g) = some (g.imps, g.decl) := by
  obtain ⟨⟨_, he⟩, _, b2, b3, b4, _⟩ := hg
  have hl : ∀ l ∈ g.imps.map lineOf, LineOK l := List.forall_mem_map.mpr fun x hx => lineOK_of_entry x (he x hx)
  unfold genParts genText
  rw [splitOnce_nn _ _ (noMatch_header noteLine _ noteLine_ok hl _)]
  simp only
  rw [lines_header noteLine _ noteLine_ok hl]
  simp only [List.drop_succ_cons, List.drop_zero]
  rw [show lineOf = fun x => renderLine x.1 x.2 from rfl, mapM_parse_lines g.imps fun x hx => entry_parse_ok x (he x hx)]
  simp only [trimNl_nl g.decl b2 b3 b4]

theorem mapM_genParts (gens : List GenT) (hok : ∀ x ∈ gens, GenOK x) :
    (gens.map fun g => (g.name, genText g)).mapM (fun g => (genParts g.2).map fun p => (g.1, p))
      = some (gens.map fun g => (g.name, (g.imps, g.decl))) :=
  mapM_map_eq_some (l := gens) fun g hg => by simp only [genParts_genText g (hok g hg), Option.map_some]

instance (g : GenT) : Decidable (GenOK g) := by
  unfold GenOK ImpsOK ImportsWF SortedS EntryOK PathOK NameOK BlockOK
  infer_instance

/-- executable form of the theorem's domain: is this generated text (of the type registered as `ident`) of the modelled shape, with
well-formed import lines and a well-formed block? -/
def genTextInDomain (ident text : Str) : Bool × Bool × Bool :=
  match genParts text with
  | none => (false, false, false)
  | some (imps, decl) =>
    let g : GenT := ⟨ident, (declName decl).getD [], imps, decl⟩
    (true, decide (GenOK g), genText g == text)

theorem genTextInDomain_sound (ident text : Str) (h : genTextInDomain ident text = (true, true, true)) :
    ∃ g : GenT, g.ident = ident ∧ GenOK g ∧ genText g = text := by
  unfold genTextInDomain at h
  cases hp : genParts text with
  | none => simp [hp] at h
  | some p =>
    obtain ⟨imps, decl⟩ := p
    simp only [hp, Prod.mk.injEq, decide_eq_true_eq, beq_iff_eq, true_and] at h
    exact ⟨⟨ident, (declName decl).getD [], imps, decl⟩, rfl, h.1, h.2⟩

end TsRs
