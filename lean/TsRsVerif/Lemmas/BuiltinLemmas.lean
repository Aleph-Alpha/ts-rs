import TsRsVerif.Model.Builtin
import TsRsVerif.Lemmas.MemberLemmas
/-! Soundness of the built-in `impl TS` tree model w.r.t. the serde model.

`serB` is defined by well-founded recursion over (type, value). The proof does not follow that recursion: `serB_sound` is a
structural recursion over the TYPE alone; the list-shaped functions (`serAllB`, `serMapB`) keep the type fixed, so their
soundness is a lifting of an assumption about the element type (`serAllB_lift`, `serMapB_lift`) and is no part of the recursion.
(A mutual well-founded recursion over all four statements is slow to check: each recursive call needs a `decreasing_tactic`
run in a context that holds the whole case.) -/
namespace TsRs.Builtin
open TsRs.Ts

mutual
/-- no non-finite float, no `PhantomData`, no dangling `Weak` anywhere in the value -/
def cleanV : RVal → Bool
  | .nonFinite | .phantom | .weakDead => false
  | .some v | .ok v | .err v => cleanV v
  | .seq vs | .strukt vs | .variant _ vs => cleanVL vs
  | .map kvs => cleanVM kvs
  | .range a b => cleanV a && cleanV b
  | _ => true
def cleanVL : List RVal → Bool
  | [] => true
  | v :: vs => cleanV v && cleanVL vs
def cleanVM : List (RVal × RVal) → Bool
  | [] => true
  | (a, b) :: rest => cleanV a && cleanV b && cleanVM rest
end

theorem cleanVL_cons {v : RVal} {vs : List RVal} (h : cleanVL (v :: vs) = true) : cleanV v = true ∧ cleanVL vs = true :=
  Bool.and_eq_true_iff.1 h

/-- every row of the GENERATED primitive table that the serde model knows maps to the TypeScript
    name the specification (`specTs`) demands -/
def TableOK : Prop :=
  ∀ row ∈ Gen.primitives, (primClass row.1).isSome = true → specTs row.1 = some row.2.1

theorem primTsName_row {r n : String} (h : primTsName r = some n) :
    ∃ row ∈ Gen.primitives, row.1 = r ∧ row.2.1 = n := by
  obtain ⟨row, hf, rfl⟩ := Option.map_eq_some_iff.1 h
  exact ⟨row, List.mem_of_find?_eq_some hf, by simpa using List.find?_some hf, rfl⟩

/-- **the table, read by class**: under `TableOK`, the TypeScript type of a row is the one `specTs` gives its class -/
theorem primTs_of_class (htab : TableOK) {r : String} {c : PrimClass} {T : Ts} (hcl : primClass r = some c) (hT : primTs r = some T) :
    match c with
    | .int _ _ _ => T = .number ∨ T = .bigint
    | .float => T = .number
    | .bool => T = .boolean
    | .char | .string => T = .string
    | .unit => T = .null := by
  obtain ⟨n, hn, hT⟩ := Option.bind_eq_some_iff.1 hT
  obtain ⟨row, hmem, rfl, rfl⟩ := primTsName_row hn
  have hspec := htab row hmem (by rw [hcl]; rfl)
  unfold specTs at hspec
  rw [hcl] at hspec
  -- `hspec : some "<name>" = some row.2.1`, the name given by `c` (for `int`, after the two tests of `specTs`)
  cases c with
  | int lo hi nz =>
    simp only at hspec
    split at hspec
    · rw [← Option.some.inj hspec] at hT; exact .inl (Option.some.inj hT).symm
    · split at hspec
      · rw [← Option.some.inj hspec] at hT; exact .inl (Option.some.inj hT).symm
      · rw [← Option.some.inj hspec] at hT; exact .inr (Option.some.inj hT).symm
  | _ => rw [← Option.some.inj hspec] at hT; exact (Option.some.inj hT).symm

theorem prim_sound (D : Decls) (htab : TableOK) (r : String) (v : RVal) (T : Ts) (j : JVal)
    (hT : primTs r = some T) (hs : (primClass r).bind (fun c => serPrim c v) = some j)
    (hc : cleanV v = true) : Member D T j := by
  obtain ⟨c, hcl, hs⟩ := Option.bind_eq_some_iff.1 hs
  have hT := primTs_of_class htab hcl hT
  -- one case for each row of `serPrim`, in its order
  unfold serPrim at hs
  split at hs
  · split at hs <;> cases hs
    rcases hT with rfl | rfl
    · exact .numberInt _
    · exact .bigint _
  · cases hs; cases hT; exact .numberFloat _
  · cases hs; cases hT; exact .numberFloat _
  · cases hc
  · cases hs; cases hT; exact .boolean _
  · cases hs; cases hT; exact .string _
  · cases hs; cases hT; exact .string _
  · cases hs; cases hT; exact .null
  · cases hs

section
variable {D : Decls} {limit : Nat} {nameN : Str → List Ts → Option Ts} {serN : Str → List RTy → RVal → Option JVal}

/-! ### `serB` read by the type: which values a type has, and what is written for them

`serB` matches on type and value at once, with overlapping rows; unfolding it with `simp [serB]` has to discharge the side
conditions of the catch-all row for every constructor of `RVal`. Rewriting with `serB.eq_def` once and letting the value's
constructor decide the `match` is much cheaper; every later proof goes through these lemmas. -/

theorem serB_prim (r : String) (v : RVal) : serB serN (.prim r) v = (primClass r).bind fun c => serPrim c v := by
  rw [serB]

theorem serB_named (id : Str) (args : List RTy) (v : RVal) : serB serN (.named id args) v = serN id args v := by
  rw [serB.eq_def]

theorem serB_param (n : Str) (v : RVal) : serB serN (.param n) v = none := by
  rw [serB.eq_def]

theorem serB_slice (t : RTy) (v : RVal) : serB serN (.slice t) v = serB serN (.vec t) v := by
  rw [serB.eq_def, serB.eq_def serN (.vec t)]; cases v <;> rfl

theorem serB_set (t : RTy) (v : RVal) : serB serN (.set t) v = serB serN (.vec t) v := by
  rw [serB.eq_def, serB.eq_def serN (.vec t)]; cases v <;> rfl

theorem serB_option_inv {t : RTy} {v : RVal} {j : JVal} (h : serB serN (.option t) v = some j) :
    (v = .none ∧ j = .null) ∨ ∃ x, v = .some x ∧ serB serN t x = some j := by
  rw [serB.eq_def] at h
  cases v <;> try contradiction
  · exact .inl ⟨rfl, (Option.some.inj h).symm⟩
  · exact .inr ⟨_, rfl, h⟩

theorem serB_vec_inv {t : RTy} {v : RVal} {j : JVal} (h : serB serN (.vec t) v = some j) :
    ∃ vs js, v = .seq vs ∧ serAllB serN t vs = some js ∧ j = .arr js := by
  rw [serB.eq_def] at h
  cases v <;> try contradiction
  obtain ⟨js, h1, rfl⟩ := Option.map_eq_some_iff.1 h
  exact ⟨_, _, rfl, h1, rfl⟩

theorem serB_arr_inv {t : RTy} {n : Nat} {v : RVal} {j : JVal} (h : serB serN (.arr t n) v = some j) :
    ∃ vs js, v = .seq vs ∧ vs.length = n ∧ serAllB serN t vs = some js ∧ j = .arr js := by
  rw [serB.eq_def] at h
  cases v <;> try contradiction
  simp only at h
  split at h
  · obtain ⟨js, h1, rfl⟩ := Option.map_eq_some_iff.1 h
    exact ⟨_, _, rfl, ‹_›, h1, rfl⟩
  · cases h

theorem serB_tuple_inv {ts : List RTy} {v : RVal} {j : JVal} (h : serB serN (.tuple ts) v = some j) :
    ∃ vs js, v = .seq vs ∧ serZipB serN ts vs = some js ∧ j = .arr js := by
  rw [serB.eq_def] at h
  cases v <;> try contradiction
  obtain ⟨js, h1, rfl⟩ := Option.map_eq_some_iff.1 h
  exact ⟨_, _, rfl, h1, rfl⟩

theorem serB_map_inv {k t : RTy} {v : RVal} {j : JVal} (h : serB serN (.map k t) v = some j) :
    ∃ kvs js, v = .map kvs ∧ serMapB serN k t kvs = some js ∧ j = .obj js := by
  rw [serB.eq_def] at h
  cases v <;> try contradiction
  obtain ⟨js, h1, rfl⟩ := Option.map_eq_some_iff.1 h
  exact ⟨_, _, rfl, h1, rfl⟩

theorem serB_result_inv {t e : RTy} {v : RVal} {j : JVal} (h : serB serN (.result t e) v = some j) :
    (∃ x jx, v = .ok x ∧ serB serN t x = some jx ∧ j = .obj [("Ok".toList, jx)]) ∨
    (∃ x jx, v = .err x ∧ serB serN e x = some jx ∧ j = .obj [("Err".toList, jx)]) := by
  rw [serB.eq_def] at h
  cases v <;> try contradiction
  · obtain ⟨jx, h1, rfl⟩ := Option.map_eq_some_iff.1 h
    exact .inl ⟨_, _, rfl, h1, rfl⟩
  · obtain ⟨jx, h1, rfl⟩ := Option.map_eq_some_iff.1 h
    exact .inr ⟨_, _, rfl, h1, rfl⟩

theorem serB_range_inv {t : RTy} {v : RVal} {j : JVal} (h : serB serN (.range t) v = some j) :
    ∃ a b ja jb, v = .range a b ∧ serB serN t a = some ja ∧ serB serN t b = some jb ∧
      j = .obj [("start".toList, ja), ("end".toList, jb)] := by
  rw [serB.eq_def] at h
  cases v <;> try contradiction
  obtain ⟨ja, ha, jb, hb, h⟩ := by simpa only [Option.bind_eq_some_iff, bind, pure] using h
  exact ⟨_, _, ja, jb, rfl, ha, hb, (Option.some.inj h).symm⟩

/-- a wrapper is transparent for every clean value (`PhantomData` and a dangling `Weak` are the two that are not clean) -/
theorem serB_wrap (k : WrapKind) (t : RTy) (v : RVal) (j : JVal)
    (hs : serB serN (.wrap k t) v = some j) (hc : cleanV v = true) : serB serN t v = some j := by
  have hp : v ≠ .phantom := by rintro rfl; cases hc
  have hw : v ≠ .weakDead := by rintro rfl; cases hc
  by_cases hk : k = .phantom
  · subst hk; simp [serB] at hs
  · simpa [serB, hk, hp, hw] using hs

theorem serAllB_cons_inv {t : RTy} {v : RVal} {vs : List RVal} {js : List JVal} (h : serAllB serN t (v :: vs) = some js) :
    ∃ j js', serB serN t v = some j ∧ serAllB serN t vs = some js' ∧ js = j :: js' := by
  rw [serAllB] at h
  obtain ⟨j, hj, js', hjs, h⟩ := by simpa only [Option.bind_eq_some_iff, bind, pure] using h
  exact ⟨j, js', hj, hjs, (Option.some.inj h).symm⟩

theorem serAllB_length (t : RTy) : ∀ (vs : List RVal) (js : List JVal), serAllB serN t vs = some js → js.length = vs.length
  | [], js, h => by rw [serAllB] at h; cases h; rfl
  | v :: vs, js, h => by
    obtain ⟨j, js', _, hjs, rfl⟩ := serAllB_cons_inv h
    simp [serAllB_length t vs js' hjs]

theorem KeyP.of_keyOfJson {P : Ts → JVal → Prop} {k : Ts} {key : Str} {kj : JVal} (h : keyOfJson kj = some key) (hp : P k kj) :
    KeyP P k key := by
  cases kj <;> simp [keyOfJson] at h
  · exact .inr ⟨_, h, hp⟩
  · exact .inl (h ▸ hp)

theorem serAllB_lift {t : RTy} {T : Ts}
    (h : ∀ v j, serB serN t v = some j → cleanV v = true → Member D T j) :
    ∀ (vs : List RVal) (js : List JVal), serAllB serN t vs = some js → cleanVL vs = true → MemberAll D T js
  | [], js, hs, _ => by rw [serAllB] at hs; cases hs; exact .nil
  | v :: vs, js, hs, hc => by
    obtain ⟨j, js', hj, hjs, rfl⟩ := serAllB_cons_inv hs
    obtain ⟨hcv, hcvs⟩ := cleanVL_cons hc
    exact .cons (h v j hj hcv) (serAllB_lift h vs js' hjs hcvs)

theorem serMapB_lift {k v : RTy} {K V : Ts}
    (hk : ∀ a j, serB serN k a = some j → cleanV a = true → Member D K j)
    (hv : ∀ b j, serB serN v b = some j → cleanV b = true → Member D V j) :
    ∀ (kvs : List (RVal × RVal)) (js : List (Str × JVal)), serMapB serN k v kvs = some js → cleanVM kvs = true →
      MemberMap D K V js
  | [], js, hs, _ => by rw [serMapB] at hs; cases hs; exact .nil
  | (a, b) :: rest, js, hs, hc => by
    rw [serMapB] at hs
    obtain ⟨kj, h1, key, h2, vj, h3, more, h4, hs⟩ := by simpa only [Option.bind_eq_some_iff, bind, pure] using hs
    cases hs
    have hcc : (cleanV a = true ∧ cleanV b = true) ∧ cleanVM rest = true := by simpa [cleanVM] using hc
    exact memberMap_iff.2 <| List.forall_mem_cons.2
      ⟨⟨KeyP.of_keyOfJson h2 (hk a _ h1 hcc.1.1), hv b vj h3 hcc.1.2⟩, memberMap_iff.1 (serMapB_lift hk hv rest more h4 hcc.2)⟩

theorem memberAll_replicate_zip {t : Ts} {js : List JVal} (h : MemberAll D t js) :
    MemberZip D (List.replicate js.length t) js :=
  memberZip_iff.2 <| zipP_iff_zip.2 ⟨List.length_replicate, fun (a, b) hp => by
    obtain ⟨ha, hb⟩ := List.of_mem_zip hp
    rw [List.eq_of_mem_replicate ha]
    exact h.allP b hb⟩

end

section
variable (D : Decls) (limit : Nat) (nameN : Str → List Ts → Option Ts)
  (serN : Str → List RTy → RVal → Option JVal)

/-- the callback for user types is sound -/
def NamedSound : Prop :=
  ∀ id args targs v j T, nameTyBL limit nameN args = some targs → nameN id targs = some T →
      serN id args v = some j → cleanV v = true → Member D T j

mutual
theorem serB_sound (htab : TableOK) (hN : NamedSound D limit nameN serN) (t : RTy) (v : RVal) (T : Ts) (j : JVal)
    (hT : nameTyB limit nameN t = some T) (hs : serB serN t v = some j) (hc : cleanV v = true) :
    Member D T j := by
  cases t with
  | prim r => exact prim_sound D htab r v T j hT (by rwa [serB_prim] at hs) hc
  | option t' =>
    obtain ⟨X, hX, rfl⟩ := Option.map_eq_some_iff.1 hT
    rcases serB_option_inv hs with ⟨rfl, rfl⟩ | ⟨x, rfl, hx⟩
    · exact .union (t := .null) (by simp) .null
    · exact .union (t := X) (by simp) (serB_sound htab hN t' x X j hX hx hc)
  | vec t' =>
    obtain ⟨X, hX, rfl⟩ := Option.map_eq_some_iff.1 hT
    obtain ⟨vs, js, rfl, hjs, rfl⟩ := serB_vec_inv hs
    exact .array (serAllB_lift (serB_sound htab hN t' · X · hX) vs js hjs hc)
  | slice t' =>
    obtain ⟨X, hX, rfl⟩ := Option.map_eq_some_iff.1 hT
    obtain ⟨vs, js, rfl, hjs, rfl⟩ := serB_vec_inv (serB_slice t' v ▸ hs)
    exact .array (serAllB_lift (serB_sound htab hN t' · X · hX) vs js hjs hc)
  | set t' =>
    obtain ⟨X, hX, rfl⟩ := Option.map_eq_some_iff.1 hT
    obtain ⟨vs, js, rfl, hjs, rfl⟩ := serB_vec_inv (serB_set t' v ▸ hs)
    exact .array (serAllB_lift (serB_sound htab hN t' · X · hX) vs js hjs hc)
  | arr t' n =>
    obtain ⟨X, hX, rfl⟩ := Option.map_eq_some_iff.1 hT
    obtain ⟨vs, js, rfl, rfl, hjs, rfl⟩ := serB_arr_inv hs
    have hall := serAllB_lift (serB_sound htab hN t' · X · hX) vs js hjs hc
    split
    · exact .array hall
    · rw [← serAllB_length t' vs js hjs]
      exact .tuple (memberAll_replicate_zip hall)
  | tuple ts =>
    obtain ⟨Xs, hXs, rfl⟩ := Option.map_eq_some_iff.1 hT
    obtain ⟨vs, js, rfl, hjs, rfl⟩ := serB_tuple_inv hs
    exact .tuple (serZipB_sound htab hN ts vs Xs js hXs hjs hc)
  | map k v' =>
    obtain ⟨K, hK, V, hV, hT⟩ := by simpa only [nameTyB, Option.bind_eq_some_iff, bind, pure] using hT
    cases hT
    obtain ⟨kvs, js, rfl, hjs, rfl⟩ := serB_map_inv hs
    exact .mapped (serMapB_lift (serB_sound htab hN k · K · hK) (serB_sound htab hN v' · V · hV) kvs js hjs hc)
  | result t' e =>
    obtain ⟨X, hX, E, hE, hT⟩ := by simpa only [nameTyB, Option.bind_eq_some_iff, bind, pure] using hT
    cases hT
    rcases serB_result_inv hs with ⟨x, jx, rfl, hx, rfl⟩ | ⟨x, jx, rfl, hx, rfl⟩
    · exact .union (List.mem_cons_self ..) (member_obj_one (serB_sound htab hN t' x X jx hX hx hc))
    · exact .union (List.mem_cons_of_mem _ (List.mem_cons_self ..)) (member_obj_one (serB_sound htab hN e x E jx hE hx hc))
  | range t' =>
    obtain ⟨X, hX, rfl⟩ := Option.map_eq_some_iff.1 hT
    obtain ⟨a, b, ja, jb, rfl, ha, hb, rfl⟩ := serB_range_inv hs
    have hca := Bool.and_eq_true_iff.1 hc
    exact member_obj_cons (by simp) (serB_sound htab hN t' a X ja hX ha hca.1)
      (member_obj_one (serB_sound htab hN t' b X jb hX hb hca.2))
  | wrap k t' =>
    exact serB_sound htab hN t' v T j hT (serB_wrap k t' v j hs hc) hc
  | named id args =>
    obtain ⟨targs, h1, h2⟩ := Option.bind_eq_some_iff.1 hT
    exact hN id args targs v j T h1 h2 (by rwa [serB_named] at hs) hc
  | param n => rw [serB_param] at hs; cases hs
theorem serZipB_sound (htab : TableOK) (hN : NamedSound D limit nameN serN) (ts : List RTy) (vs : List RVal) (Ts' : List Ts) (js : List JVal)
    (hT : nameTyBL limit nameN ts = some Ts') (hs : serZipB serN ts vs = some js) (hc : cleanVL vs = true) :
    MemberZip D Ts' js := by
  cases ts with
  | nil =>
    cases vs with
    | nil => rw [serZipB] at hs; rw [nameTyBL] at hT; cases hs; cases hT; exact .nil
    | cons _ _ => simp [serZipB] at hs
  | cons t ts' =>
    cases vs with
    | nil => simp [serZipB] at hs
    | cons v vs' =>
      rw [serZipB] at hs
      obtain ⟨j, hj, js', hjs, hs⟩ := by simpa only [Option.bind_eq_some_iff, bind, pure] using hs
      obtain ⟨X, hX, Xs, hXs, hT⟩ := by simpa only [nameTyBL, Option.bind_eq_some_iff, bind, pure] using hT
      cases hs; cases hT
      obtain ⟨hcv, hcvs⟩ := cleanVL_cons hc
      exact .cons (serB_sound htab hN t v X j hX hj hcv) (serZipB_sound htab hN ts' vs' Xs js' hXs hjs hcvs)
end

theorem serAllB_sound (htab : TableOK) (hN : NamedSound D limit nameN serN) (t : RTy) (vs : List RVal) (T : Ts) (js : List JVal)
    (hT : nameTyB limit nameN t = some T) (hs : serAllB serN t vs = some js) (hc : cleanVL vs = true) :
    MemberAll D T js :=
  serAllB_lift (serB_sound D limit nameN serN htab hN t · T · hT) vs js hs hc

theorem serMapB_sound (htab : TableOK) (hN : NamedSound D limit nameN serN) (k v : RTy) (kvs : List (RVal × RVal)) (K V : Ts) (js : List (Str × JVal))
    (hK : nameTyB limit nameN k = some K) (hV : nameTyB limit nameN v = some V)
    (hs : serMapB serN k v kvs = some js) (hc : cleanVM kvs = true) : MemberMap D K V js :=
  serMapB_lift (serB_sound D limit nameN serN htab hN k · K · hK) (serB_sound D limit nameN serN htab hN v · V · hV) kvs js hs hc
end

end TsRs.Builtin
