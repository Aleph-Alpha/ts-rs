import TsRsVerif.Model.Text
import TsRsVerif.Lemmas.ListLemmas
/-! What each `Text` function does on the forms of input the development meets. The prefix and suffix tests are core's
`<+:` / `<:+`; a join is undone by the matching split when the separator occurs in no piece. -/
namespace TsRs.Text

@[simp] theorem stripPrefix_nil (s : Str) : stripPrefix [] s = some s := by
  cases s <;> rfl

theorem stripPrefix_eq_some_iff {p s r : Str} : stripPrefix p s = some r ↔ s = p ++ r := by
  induction p generalizing s with
  | nil => simp [eq_comm]
  | cons c cs ih =>
    cases s with
    | nil => simp [stripPrefix]
    | cons d ds => simp only [stripPrefix]; split <;> simp_all [eq_comm]

theorem stripPrefix_append (p r : Str) : stripPrefix p (p ++ r) = some r := stripPrefix_eq_some_iff.mpr rfl

theorem stripPrefix_none_of_second {a b c : Char} {pat s : Str} (h : a = c → s.head? ≠ some b) :
    stripPrefix (a :: b :: pat) (c :: s) = none := by
  rw [stripPrefix]
  split
  · rename_i hac
    cases s with
    | nil => rfl
    | cons d s => rw [stripPrefix, if_neg fun e => h hac (by rw [e]; rfl)]
  · rfl

theorem startsWith_iff {p s : Str} : startsWith p s = true ↔ p <+: s := by
  rw [startsWith, Option.isSome_iff_exists]
  exact exists_congr fun r => stripPrefix_eq_some_iff.trans eq_comm

theorem endsWith_iff {p s : Str} : endsWith p s = true ↔ p <:+ s := by
  rw [endsWith, startsWith_iff, List.reverse_prefix]

theorem stripSuffix_eq_some_iff {p s r : Str} : stripSuffix p s = some r ↔ s = r ++ p := by
  simp [stripSuffix, stripPrefix_eq_some_iff, List.reverse_eq_iff]

theorem stripSuffix_append (p r : Str) : stripSuffix p (r ++ p) = some r := stripSuffix_eq_some_iff.mpr rfl

theorem endsWith_after {pat q t : Str} {c : Char} (hc : c ∉ pat) : endsWith pat (q ++ c :: t) = endsWith pat t := by
  rw [Bool.eq_iff_iff, endsWith_iff, endsWith_iff]
  exact ⟨suffix_of_not_mem hc, fun h => List.suffix_append_of_suffix (h.trans (List.suffix_cons c t))⟩

theorem trimStartMatchesAux_none (pat : Str) (n : Nat) (s : Str) (h : startsWith pat s = false) :
    trimStartMatchesAux pat n s = s := by
  have : stripPrefix pat s = none := by simpa [startsWith] using h
  cases n <;> simp [trimStartMatchesAux, this]

theorem trimStartMatchesAux_step (pat : Str) (hp : pat ≠ []) (n : Nat) (r : Str) :
    trimStartMatchesAux pat (n + 1) (pat ++ r) = trimStartMatchesAux pat n r := by
  have : pat.isEmpty = false := by cases pat <;> simp_all
  simp [trimStartMatchesAux, stripPrefix_append, this]

theorem trimStartMatches_once (pat s : Str) (hp : pat ≠ []) (h : startsWith pat s = false) :
    trimStartMatches pat (pat ++ s) = s := by
  obtain ⟨c, cs, rfl⟩ := List.exists_cons_of_ne_nil hp
  rw [trimStartMatches, show (c :: cs ++ s).length = (cs ++ s).length + 1 by simp, trimStartMatchesAux_step _ hp,
    trimStartMatchesAux_none _ _ _ h]

theorem trimEndMatches_once (pat s : Str) (hp : pat ≠ []) (h : endsWith pat s = false) : trimEndMatches pat (s ++ pat) = s := by
  rw [trimEndMatches, List.reverse_append, trimStartMatches_once _ _ (by simpa using hp) h, List.reverse_reverse]

theorem trimEndMatches_none (pat s : Str) (h : endsWith pat s = false) : trimEndMatches pat s = s := by
  rw [trimEndMatches, trimStartMatches, trimStartMatchesAux_none _ _ _ h, List.reverse_reverse]

theorem trimStartMatchesAux_suffix (pat : Str) : ∀ (n : Nat) (s : Str), trimStartMatchesAux pat n s <:+ s
  | 0, s => List.suffix_refl s
  | n + 1, s => by
    unfold trimStartMatchesAux
    cases h : stripPrefix pat s with
    | none => exact List.suffix_refl s
    | some r =>
      simp only
      split
      · exact List.suffix_refl s
      · rw [stripPrefix_eq_some_iff.mp h]
        exact (trimStartMatchesAux_suffix pat n r).trans (List.suffix_append pat r)

theorem trimEndMatches_isPrefix (pat s : Str) : trimEndMatches pat s <+: s := by
  rw [← List.reverse_suffix, trimEndMatches, List.reverse_reverse]
  exact trimStartMatchesAux_suffix _ _ _

theorem trimStartP_id (p : Char → Bool) : ∀ (s : Str), (∀ c, s.head? = some c → p c = false) → trimStartP p s = s
  | [], _ => rfl
  | c :: cs, h => by simp [trimStartP, h c rfl]

theorem trimStartP_append (p : Char → Bool) (s : Str) : ∀ (t : Str), (∀ c ∈ t, p c = true) → trimStartP p (t ++ s) = trimStartP p s
  | [], _ => rfl
  | c :: t, h => by simp [trimStartP, h c (by simp), trimStartP_append p s t fun d hd => h d (by simp [hd])]

theorem trimEndP_id (p : Char → Bool) (s : Str) (h : ∀ c, s.getLast? = some c → p c = false) : trimEndP p s = s := by
  rw [trimEndP, trimStartP_id p _ (by simpa using h), List.reverse_reverse]

theorem trimEndP_append (p : Char → Bool) (s t : Str) (h : ∀ c ∈ t, p c = true) : trimEndP p (s ++ t) = trimEndP p s := by
  rw [trimEndP, List.reverse_append, trimStartP_append p _ _ (by simpa using h), trimEndP]

theorem intercalate_cons (sep a : Str) (ps : List Str) (h : ps ≠ []) : intercalate sep (a :: ps) = a ++ sep ++ intercalate sep ps := by
  cases ps with
  | nil => exact absurd rfl h
  | cons b bs => rfl

theorem intercalate_concat (sep x : Str) : ∀ (init : List Str), init ≠ [] →
    intercalate sep (init ++ [x]) = intercalate sep init ++ sep ++ x
  | [a], _ => rfl
  | a :: b :: bs, _ => by
    show a ++ sep ++ intercalate sep (b :: bs ++ [x]) = a ++ sep ++ intercalate sep (b :: bs) ++ sep ++ x
    rw [intercalate_concat sep x (b :: bs) (by simp)]; simp

theorem intercalate_concat_append (sep x t : Str) (init : List Str) :
    intercalate sep (init ++ [x]) ++ t = intercalate sep (init ++ [x ++ t]) := by
  cases init with
  | nil => rfl
  | cons a as => rw [intercalate_concat _ _ _ (by simp), intercalate_concat _ _ _ (by simp)]; simp

theorem endsWith_intercalate_concat {pat : Str} {c : Char} (hc : c ∉ pat) (init : List Str) (x : Str) :
    endsWith pat (intercalate [c] (init ++ [x])) = endsWith pat x := by
  cases init with
  | nil => rfl
  | cons a as => rw [intercalate_concat _ _ _ (by simp), List.append_assoc, List.singleton_append, endsWith_after hc]

theorem intercalate_append_sep (sep a : Str) : ∀ (ls : List Str),
    intercalate sep (a :: ls) ++ sep = ((a :: ls).map (· ++ sep)).flatten
  | [] => by simp [intercalate]
  | l :: ls => by rw [intercalate_cons _ _ _ (by simp), List.append_assoc, intercalate_append_sep sep l ls]; simp

/-- with the separator behind it a join is a `flatten`, and that is monotone -/
theorem intercalate_sublist (sep : Str) {l₁ l₂ : List Str} (h : l₁.Sublist l₂) : (intercalate sep l₁).Sublist (intercalate sep l₂) := by
  cases l₁ with
  | nil => exact List.nil_sublist _
  | cons a as =>
    obtain ⟨b, bs, rfl⟩ := List.exists_cons_of_ne_nil (List.ne_nil_of_mem (h.subset List.mem_cons_self))
    rw [← List.append_sublist_append_right sep, intercalate_append_sep, intercalate_append_sep]
    exact flatten_map_sublist _ h

theorem not_mem_intercalate (g : Char) (sep : Str) (hsep : g ∉ sep) : ∀ (ps : List Str), (∀ p ∈ ps, g ∉ p) → g ∉ intercalate sep ps
  | [], _ => by simp [intercalate]
  | [p], h => h p (by simp)
  | p :: q :: ps, h => by
    have := not_mem_intercalate g sep hsep (q :: ps) fun t ht => h t (by simp [ht])
    simp [intercalate, h p, hsep, this]

theorem infix_intercalate (sep : Str) : ∀ (ps : List Str) (p : Str), p ∈ ps → p <:+: intercalate sep ps
  | [x], p, h => by rw [List.mem_singleton.mp h]; exact List.infix_refl _
  | x :: y :: ys, p, h => by
    rw [intercalate_cons _ _ _ (by simp)]
    rcases List.mem_cons.mp h with rfl | h
    · exact ⟨[], sep ++ intercalate sep (y :: ys), by simp⟩
    · exact (infix_intercalate sep (y :: ys) p h).trans (List.suffix_append _ _).isInfix

theorem splitChar_single (d : Char) : ∀ (s : Str), d ∉ s → splitChar d s = [s]
  | [], _ => rfl
  | c :: s, h => by
    simp [splitChar, show c ≠ d from fun e => h (by simp [e]), splitChar_single d s fun e => h (by simp [e])]

theorem splitChar_piece (d : Char) (r : Str) : ∀ (p : Str), d ∉ p → splitChar d (p ++ d :: r) = p :: splitChar d r
  | [], _ => by simp [splitChar]
  | c :: p, h => by
    simp [splitChar, show c ≠ d from fun e => h (by simp [e]), splitChar_piece d r p fun e => h (by simp [e])]

theorem splitChar_intercalate (d : Char) : ∀ (ps : List Str), ps ≠ [] → (∀ p ∈ ps, d ∉ p) → splitChar d (intercalate [d] ps) = ps
  | [], hne, _ => absurd rfl hne
  | [p], _, h => splitChar_single d p (h p (by simp))
  | p :: q :: ps, _, h => by
    rw [intercalate, List.append_assoc, List.singleton_append, splitChar_piece d _ p (h p (by simp)),
      splitChar_intercalate d (q :: ps) (by simp) fun t ht => h t (by simp [ht])]

theorem splitChar_no_sep (d : Char) (s : Str) : ∀ p ∈ splitChar d s, d ∉ p := by
  fun_induction splitChar d s <;> simp_all [Ne.symm]

theorem lines_intercalate (ls : List Str) (hne : ls ≠ []) (h : ∀ l ∈ ls, '\n' ∉ l ∧ l.getLast? ≠ some '\r')
    (hlast : ls.getLast? ≠ some []) : lines (intercalate ['\n'] ls) = ls := by
  unfold lines
  simp only [splitChar_intercalate '\n' ls hne fun l hl => (h l hl).1, hlast, ↓reduceIte]
  refine (List.map_congr_left fun l hl => ?_).trans (List.map_id' _)
  cases hs : stripSuffix ['\r'] l with
  | none => rfl
  | some r => exact absurd (by rw [stripSuffix_eq_some_iff.mp hs]; simp) (h l hl).2

/-- `pat` matches at no position of `p` when `r` follows. `splitOnce` and `split` walk over such a piece, whatever the pattern
(`splitOnce_skip`, `splitAux_skip`); what differs from separator to separator is only why it does not match inside a piece. -/
def NoMatch (pat r : Str) : Str → Prop
  | [] => True
  | c :: p => stripPrefix pat (c :: (p ++ r)) = none ∧ NoMatch pat r p

theorem noMatch_of_head (x : Char) (pat r : Str) : ∀ (p : Str), x ∉ p → NoMatch (x :: pat) r p
  | [], _ => trivial
  | c :: p, h => ⟨by simp [stripPrefix, show x ≠ c from fun e => h (by simp [e])], noMatch_of_head x pat r p fun e => h (by simp [e])⟩

theorem noMatch_of_second (x y : Char) (pat r : Str) (hr : r.head? ≠ some y) : ∀ (p : Str), y ∉ p → NoMatch (x :: y :: pat) r p
  | [], _ => trivial
  | c :: p, h => by
    refine ⟨stripPrefix_none_of_second fun _ => ?_, noMatch_of_second x y pat r hr p fun e => h (by simp [e])⟩
    cases p with
    | nil => exact hr
    | cons d _ => simpa using fun e => h (by simp [e])

theorem noMatch_append {pat r : Str} : ∀ (a b : Str), NoMatch pat r (a ++ b) ↔ NoMatch pat (b ++ r) a ∧ NoMatch pat r b
  | [], b => by simp [NoMatch]
  | c :: a, b => by simp [NoMatch, noMatch_append a b, and_assoc]

theorem splitOnce_match {pat : Str} (hp : pat ≠ []) (rest : Str) : splitOnce pat (pat ++ rest) = some ([], rest) := by
  cases pat with
  | nil => exact absurd rfl hp
  | cons c pat => simp [splitOnce, stripPrefix, stripPrefix_append]

theorem splitOnce_skip {pat r : Str} : ∀ (p : Str), NoMatch pat r p →
    splitOnce pat (p ++ r) = (splitOnce pat r).map fun x => (p ++ x.1, x.2)
  | [], _ => by simp
  | c :: p, ⟨h, hp⟩ => by simp [splitOnce, h, splitOnce_skip p hp, Function.comp_def]

theorem splitOnce_piece {pat : Str} (hp : pat ≠ []) (p rest : Str) (h : NoMatch pat (pat ++ rest) p) :
    splitOnce pat (p ++ (pat ++ rest)) = some (p, rest) := by
  rw [splitOnce_skip p h, splitOnce_match hp]; simp

theorem splitAux_skip {pat r : Str} : ∀ (p cur : Str), NoMatch pat r p →
    splitAux pat 0 cur (p ++ r) = splitAux pat 0 (p.reverse ++ cur) r
  | [], _, _ => rfl
  | c :: p, cur, ⟨h, hp⟩ => by
    simp only [List.cons_append, splitAux, startsWith, h, Option.isSome_none, Bool.false_eq_true, if_false]
    rw [splitAux_skip p (c :: cur) hp]; simp

theorem splitAux_drop (pat cur rest : Str) : ∀ (xs : Str), splitAux pat xs.length cur (xs ++ rest) = splitAux pat 0 cur rest
  | [] => rfl
  | _ :: xs => by simp only [List.length_cons, List.cons_append, splitAux]; exact splitAux_drop pat cur rest xs

theorem split_piece {pat : Str} (hp : pat ≠ []) (p rest : Str) (h : NoMatch pat (pat ++ rest) p) :
    split pat (p ++ (pat ++ rest)) = p :: split pat rest := by
  rw [split, splitAux_skip p [] h]
  cases pat with
  | nil => exact absurd rfl hp
  | cons c pat =>
    have : startsWith (c :: pat) (c :: (pat ++ rest)) = true := by simp [startsWith, stripPrefix, stripPrefix_append]
    simp only [List.cons_append, splitAux, this, if_true, List.length_cons, Nat.add_sub_cancel, splitAux_drop]
    simp [split]

theorem split_last {pat : Str} (p : Str) (h : NoMatch pat [] p) : split pat p = [p] := by
  simpa [split, splitAux] using splitAux_skip p [] h

theorem split_intercalate {pat : Str} (hne : pat ≠ []) : ∀ (ps : List Str), ps ≠ [] → (∀ p ∈ ps, ∀ r, NoMatch pat r p) →
    split pat (intercalate pat ps) = ps
  | [], h, _ => absurd rfl h
  | [p], _, hp => split_last p (hp p (by simp) [])
  | p :: q :: ps, _, hp => by
    rw [intercalate, List.append_assoc, split_piece hne p _ (hp p (by simp) _),
      split_intercalate hne (q :: ps) (by simp) fun t ht => hp t (by simp [ht])]

end TsRs.Text
