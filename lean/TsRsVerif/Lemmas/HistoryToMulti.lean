import TsRsVerif.Lemmas.HistoryTo
import TsRsVerif.Lemmas.HistoryMulti
/-!
# Several files through `export_to`: directories created on the way

The last link between the per-file history theorems and the entry points: a sequence of `export_to` calls into SEVERAL files whose
parent directories do not exist yet. Each call creates the missing directories of its own file (`create_dir_all`) and then merges.
Invariant (`TInv`): every file that received exports holds the canonical text of ITS exports, no other regular file changed, no
regular file stands on the directory chain of any target, no target is a directory. Both halves of a call keep it: `tinv_mkdir`,
`tinv_merge`.
-/
namespace TsRs
open Export Fs

/-- a target file: its directory names below the root and its own name -/
structure TSlot where
  ns : List Str
  name : Str

def TSlot.loc (s : TSlot) : Loc := s.ns ++ [s.name]
def TSlot.path (s : TSlot) : Str := Path.ofComps (Comp.root :: Path.N (s.ns ++ [s.name]))
def TSlot.par (s : TSlot) : Str := Path.ofComps (Comp.root :: Path.N s.ns)

/-- one step: (file index, generated text) and the spelling of the path handed to `export_to` -/
abbrev TOp := Op × Str

/-- the steps in order through `export_to`, each with its own spelling of the path; `true` = every one returned `Ok` -/
def runOpsTo (slots : List TSlot) : World → List TOp → World × Bool
  | w, [] => (w, true)
  | w, op :: ops =>
    match slots[op.1.1]? with
    | none => (w, false)
    | some _ =>
      match exportTo w (tyOfGen op.1.2) op.2 with
      | (w', .ok) => runOpsTo slots w' ops
      | (w', _) => (w', false)

/-- the targets: proper names, different files, no target is an ancestor directory of a target, no regular file stands on the way to
a target, no target is a directory -/
structure TSlotsOK (fs0 : Fs) (slots : List TSlot) : Prop where
  names : ∀ s ∈ slots, ∀ n ∈ s.ns ++ [s.name], Path.CompName n
  locs : ∀ (i j : Nat) (a b : TSlot), slots[i]? = some a → slots[j]? = some b → a.loc = b.loc → i = j
  prefixFree : ∀ a ∈ slots, ∀ b ∈ slots, ∀ k, k ≤ b.ns.length → a.loc ≠ b.ns.take k
  chain : ∀ s ∈ slots, ∀ k, 0 < k → k ≤ s.ns.length → ∀ c, fs0.lookup (s.ns.take k) ≠ some (.file c)
  notdir : ∀ s ∈ slots, fs0.lookup s.loc ≠ some .dir

/-- after the steps `done`: every file that received exports holds the canonical text of ITS exports and is registered with their identifiers, every
other regular file is as in `fs0`, no regular file stands on the directory chain of a target, no target is a directory -/
structure TInv (fs0 : Fs) (slots : List TSlot) (done : List Op) (w : World) : Prop where
  alive : w.poisoned = false
  cwd : w.fs.cwd = fs0.cwd
  files : ∀ (i : Nat) s, slots[i]? = some s → gensAt i done ≠ [] → w.fs.lookup s.loc = some (.file (fileText (canonSt (gensAt i done))))
  others : ∀ l c, (∀ (i : Nat) s, slots[i]? = some s → s.loc = l → gensAt i done = []) →
    (w.fs.lookup l = some (.file c) ↔ fs0.lookup l = some (.file c))
  chain : ∀ s ∈ slots, ∀ k, 0 < k → k ≤ s.ns.length → ∀ c, w.fs.lookup (s.ns.take k) ≠ some (.file c)
  notdir : ∀ s ∈ slots, w.fs.lookup s.loc ≠ some .dir
  regNone : ∀ (i : Nat) s, slots[i]? = some s → gensAt i done = [] → regGet w.reg (regKey s.path) = none
  regSome : ∀ (i : Nat) s, slots[i]? = some s → gensAt i done ≠ [] →
    ∃ names, regGet w.reg (regKey s.path) = some names ∧ ∀ n, n ∈ names ↔ n ∈ (gensAt i done).map (·.ident)

theorem tslot_key (s : TSlot) (hns : ∀ n ∈ s.ns ++ [s.name], Path.CompName n) : regKey s.path = Comp.root :: Path.N s.loc :=
  Path.components_ofComps (s.ns ++ [s.name]) hns

theorem TSlotsOK.keys {fs0 : Fs} {slots : List TSlot} (hs : TSlotsOK fs0 slots) (i j : Nat) (a b : TSlot)
    (ha : slots[i]? = some a) (hb : slots[j]? = some b) (e : regKey a.path = regKey b.path) : i = j := by
  rw [tslot_key a (hs.names a (List.mem_of_getElem? ha)), tslot_key b (hs.names b (List.mem_of_getElem? hb))] at e
  exact hs.locs i j a b ha hb ((List.map_inj_right fun _ _ h => Comp.normal.inj h).mp (List.cons.inj e).2)

/-- **`create_dir_all` of a target's parent** succeeds, keeps the invariant (it adds directories on the chain, where no target
lies), and afterwards the target can be created at its location -/
theorem tinv_mkdir (fs0 : Fs) (slots : List TSlot) (hs : TSlotsOK fs0 slots) (done : List Op) (w : World)
    (hinv : TInv fs0 slots done w) (s : TSlot) (hmem : s ∈ slots) :
    ∃ fsD, w.fs.createDirAll s.par = some fsD ∧ TInv fs0 slots done { w with fs := fsD } ∧ CanCreate fsD s.path s.loc := by
  have hns := hs.names s hmem
  obtain ⟨fsD, hmk⟩ := Fs.createDirAllAux_succeeds s.ns w.fs [] (by simpa only [List.nil_append] using hinv.chain s hmem)
  have hd : w.fs.createDirAll s.par = some fsD := by
    rw [TSlot.par, createDirAll_ofComps _ _ fun n hn => hns n (List.mem_append_left _ hn)]; exact hmk
  obtain ⟨hres, hdir⟩ := resolve_after_mkdir w.fs fsD s.ns s.name hns hmk
  -- what changed: at most directories at the prefixes of `s.ns`; no target is such a prefix
  have hlk : ∀ l, fsD.lookup l = w.fs.lookup l ∨ (fsD.lookup l = some .dir ∧ ∃ k, k ≤ s.ns.length ∧ 0 < k ∧ l = s.ns.take k) := by
    simpa only [List.nil_append] using Fs.createDirAllAux_lookup s.ns w.fs [] fsD hmk
  have hloc : ∀ s' ∈ slots, fsD.lookup s'.loc = w.fs.lookup s'.loc := fun s' hs' =>
    (hlk s'.loc).resolve_right fun ⟨_, k, hk, _, hl⟩ => hs.prefixFree s' hs' s hmem k hk hl
  refine ⟨fsD, hd, ⟨hinv.alive, (Fs.createDirAll_frame _ _ _ hd).2.trans hinv.cwd, ?_, ?_, ?_, ?_, hinv.regNone, hinv.regSome⟩,
    hres, by simp [TSlot.loc], by rw [TSlot.loc, List.dropLast_concat]; exact hdir, hloc s hmem ▸ hinv.notdir s hmem⟩
  · intro i s' hs' hne
    exact (hloc s' (List.mem_of_getElem? hs')).trans (hinv.files i s' hs' hne)
  · intro l c hun
    rw [← hinv.others l c hun]
    rcases hlk l with h | ⟨hdir, k, hk, hk0, rfl⟩
    · rw [h]
    · exact ⟨fun hf => by rw [hdir] at hf; (cases hf), fun hf => absurd hf (hinv.chain s hmem k hk0 hk c)⟩
  · intro s' hs' k hk0 hk c
    rcases hlk (s'.ns.take k) with h | ⟨hdir, _⟩
    · rw [h]; exact hinv.chain s' hs' k hk0 hk c
    · rw [hdir]; exact nofun
  · intro s' hs'
    exact (hloc s' hs') ▸ hinv.notdir s' hs'

theorem tinv_merge (fs0 : Fs) (slots : List TSlot) (hs : TSlotsOK fs0 slots) (done : List Op) (op : Op) (w : World)
    (hinv : TInv fs0 slots done w) (s : TSlot) (hsl : slots[op.1]? = some s)
    (hc : CanCreate w.fs s.path s.loc) (hok : GensOK (gensAt op.1 done ++ [op.2])) :
    ∃ w', exportGen w s.path op.2 = (w', .ok) ∧ TInv fs0 slots (done ++ [op]) w' := by
  have hmem : s ∈ slots := List.mem_of_getElem? hsl
  have hl := hc.nonroot
  have hat : ∀ (i : Nat) t, slots[i]? = some t → FileAt t.path t.loc (gensAt i done) w :=
    fun i t ht => ⟨hinv.regNone i t ht, hinv.files i t ht, hinv.regSome i t ht⟩
  refine ⟨_, exportGen_step w s.path s.loc (gensAt op.1 done) op.2 hinv.alive hc (hat _ _ hsl) hok, ?_⟩
  have hat' := fileAt_step TSlot.path TSlot.loc slots hs.locs hs.keys done op w s hsl hl hat
  refine ⟨hinv.alive, hinv.cwd, fun i t ht => (hat' i t ht).file, fun l c hun => ?_, fun s' hs' k hk0 hk c => ?_,
    fun s' hs' => ?_, fun i t ht => (hat' i t ht).regNone, fun i t ht => (hat' i t ht).regSome⟩
  · have hne : l ≠ s.loc := fun e => by simpa [gensAt_snoc] using hun op.1 s hsl e.symm
    show (w.fs.set s.loc _).lookup l = _ ↔ _
    rw [lookup_set_ne _ _ hne]
    exact hinv.others l c fun i t ht e => (gensAt_nil_of_snoc (hun i t ht e)).1
  · show (w.fs.set s.loc _).lookup _ ≠ _
    rw [lookup_set_ne _ _ fun e => hs.prefixFree s hmem s' hs' k hk e.symm]
    exact hinv.chain s' hs' k hk0 hk c
  · show (w.fs.set s.loc _).lookup _ ≠ _
    by_cases he : s'.loc = s.loc
    · rw [he, lookup_set_self _ _ hl]; simp
    · rw [lookup_set_ne _ _ he]; exact hinv.notdir s' hs'

/-- one `export_to` step into one of the files -/
theorem tinv_step (fs0 : Fs) (slots : List TSlot) (hs : TSlotsOK fs0 slots) (done : List Op) (op : TOp) (w : World)
    (hinv : TInv fs0 slots done w) (s : TSlot) (hsl : slots[op.1.1]? = some s)
    (habs : Path.absolute (cwdStr w.fs) op.2 = .ok s.path)
    (hgen : ∀ x ∈ gensAt op.1.1 (done ++ [op.1]), GenOK x)
    (hnm : ((gensAt op.1.1 (done ++ [op.1])).map (·.name)).Nodup) (hid : ((gensAt op.1.1 (done ++ [op.1])).map (·.ident)).Nodup) :
    ∃ w', exportTo w (tyOfGen op.1.2) op.2 = (w', .ok) ∧ TInv fs0 slots (done ++ [op.1]) w' := by
  have hmem : s ∈ slots := List.mem_of_getElem? hsl
  have hsnoc : gensAt op.1.1 (done ++ [op.1]) = gensAt op.1.1 done ++ [op.1.2] := by simp [gensAt_snoc]
  rw [hsnoc] at hgen hnm hid
  obtain ⟨fsD, hd, hinvD, hc⟩ := tinv_mkdir fs0 slots hs done w hinv s hmem
  rw [exportTo_eq w op.1.2 op.2 s.path s.par fsD habs (parent_ofComps s.ns s.name (hs.names s hmem)) hd]
  exact tinv_merge fs0 slots hs done op.1 _ hinvD s hsl hc ⟨hgen, hnm, hid⟩

/-- a repeated step — the same generated text into the same file, through any spelling of the path — returns `Ok` and keeps the
invariant with the SAME list of exports: the registry already lists the type, the file is not touched -/
theorem tinv_step_repeat (fs0 : Fs) (slots : List TSlot) (hs : TSlotsOK fs0 slots) (done : List Op) (op : TOp) (w : World)
    (hinv : TInv fs0 slots done w) (s : TSlot) (hsl : slots[op.1.1]? = some s)
    (habs : Path.absolute (cwdStr w.fs) op.2 = .ok s.path)
    (hrep : op.1.2 ∈ gensAt op.1.1 done) :
    ∃ w', exportTo w (tyOfGen op.1.2) op.2 = (w', .ok) ∧ TInv fs0 slots done w' := by
  have hmem : s ∈ slots := List.mem_of_getElem? hsl
  obtain ⟨fsD, hd, hinvD, _⟩ := tinv_mkdir fs0 slots hs done w hinv s hmem
  refine ⟨_, ?_, hinvD⟩
  obtain ⟨names, hreg, hnames⟩ := hinv.regSome op.1.1 s hsl (List.ne_nil_of_mem hrep)
  rw [exportTo_eq w op.1.2 op.2 s.path s.par fsD habs (parent_ofComps s.ns s.name (hs.names s hmem)) hd]
  simp [exportGen, exportAndMerge, hinv.alive, hreg, (hnames _).mpr (List.mem_map.mpr ⟨op.1.2, hrep, rfl⟩)]

/-- the steps are well-formed: indices in range, every spelling has the normal form of its file, texts in the domain, per file
distinct identifiers and declared names -/
structure TOpsOK (slots : List TSlot) (cwd0 : Str) (ops : List TOp) : Prop where
  inRange : ∀ op ∈ ops, op.1.1 < slots.length
  spelled : ∀ op ∈ ops, ∀ s, slots[op.1.1]? = some s → Path.absolute cwd0 op.2 = .ok s.path
  genOK : ∀ op ∈ ops, GenOK op.1.2
  names : ∀ i, ((gensAt i (ops.map (·.1))).map (·.name)).Nodup
  idents : ∀ i, ((gensAt i (ops.map (·.1))).map (·.ident)).Nodup

theorem tinv_init (slots : List TSlot) (w : World) (hs : TSlotsOK w.fs slots) (hp : w.poisoned = false)
    (hreg : ∀ s ∈ slots, regGet w.reg (regKey s.path) = none) : TInv w.fs slots [] w :=
  ⟨hp, rfl, fun _ _ _ h => absurd rfl h, fun _ _ _ => Iff.rfl, hs.chain, hs.notdir,
   fun _ s hs' _ => hreg s (List.mem_of_getElem? hs'), fun _ _ _ h => absurd rfl h⟩

/-- the invariant determines every regular file, up to the order of the history -/
theorem tinv_same_files_perm (fs0 : Fs) (slots : List TSlot) (d₁ d₂ : List Op) (hp : d₁.Perm d₂)
    (hnames : ∀ i, ((gensAt i d₁).map (·.name)).Nodup) (w₁ w₂ : World)
    (h₁ : TInv fs0 slots d₁ w₁) (h₂ : TInv fs0 slots d₂ w₂) :
    ∀ l c, w₁.fs.lookup l = some (.file c) ↔ w₂.fs.lookup l = some (.file c) := by
  intro l c
  by_cases hex : ∃ (i : Nat) (s : TSlot), slots[i]? = some s ∧ s.loc = l ∧ gensAt i d₁ ≠ []
  · obtain ⟨i, s, hsl, rfl, hne⟩ := hex
    rw [h₁.files i s hsl hne, h₂.files i s hsl (fun e => hne ((gensAt_nil_perm i hp).mpr e)),
      canonSt_perm _ _ (gensAt_perm i hp) (hnames i)]
  · have hun : ∀ (i : Nat) s, slots[i]? = some s → s.loc = l → gensAt i d₁ = [] :=
      fun i s hsl hl => Classical.byContradiction fun h => hex ⟨i, s, hsl, hl, h⟩
    rw [h₁.others l c hun, h₂.others l c fun i s hsl hl => (gensAt_nil_perm i hp).mp (hun i s hsl hl)]

/-- `news` are the steps of `ops` that export something new, in order; the others repeat an earlier export into the same file -/
inductive Dedup : List Op → List TOp → List Op → Prop where
  | nil {done : List Op} : Dedup done [] []
  | rep {done : List Op} {op : TOp} {ops : List TOp} {news : List Op} :
      op.1.2 ∈ gensAt op.1.1 done → Dedup done ops news → Dedup done (op :: ops) news
  | new {done : List Op} {op : TOp} {ops : List TOp} {news : List Op} :
      Dedup (done ++ [op.1]) ops news → Dedup done (op :: ops) (op.1 :: news)

/-- every step may be counted as new -/
theorem dedup_all_new : ∀ (ops : List TOp) (done : List Op), Dedup done ops (ops.map (·.1))
  | [], _ => .nil
  | _ :: ops, done => .new (dedup_all_new ops (done ++ [_]))

theorem tmulti_repeats (fs0 : Fs) (slots : List TSlot) (hs : TSlotsOK fs0 slots) {ops : List TOp} {done news : List Op}
    (hd : Dedup done ops news) (w : World) (h : TInv fs0 slots done w) (hr : ∀ op ∈ ops, op.1.1 < slots.length)
    (hsp : ∀ op ∈ ops, ∀ s, slots[op.1.1]? = some s → Path.absolute (cwdStr fs0) op.2 = .ok s.path) (hok : OpsGensOK (done ++ news)) :
    ∃ w', runOpsTo slots w ops = (w', true) ∧ TInv fs0 slots (done ++ news) w' := by
  induction hd generalizing w with
  | nil => exact ⟨w, rfl, by rwa [List.append_nil]⟩
  | @rep done op ops news hrep _ ih =>
    have hr0 := hr op List.mem_cons_self
    have hsl : slots[op.1.1]? = some slots[op.1.1] := List.getElem?_eq_getElem hr0
    obtain ⟨w1, hstep, hinv1⟩ := tinv_step_repeat fs0 slots hs done op w h _ hsl
      (by rw [cwdStr, h.cwd]; exact hsp op List.mem_cons_self _ hsl) hrep
    obtain ⟨w', hrun, hinv'⟩ := ih w1 hinv1 (fun o ho => hr o (List.mem_cons_of_mem _ ho)) (fun o ho => hsp o (List.mem_cons_of_mem _ ho)) hok
    exact ⟨w', by simp only [runOpsTo, hsl, hstep, hrun], hinv'⟩
  | @new done op ops news _ ih =>
    have hr0 := hr op List.mem_cons_self
    have hsl : slots[op.1.1]? = some slots[op.1.1] := List.getElem?_eq_getElem hr0
    rw [List.append_cons] at hok ⊢
    have hop := hok.left op.1.1
    obtain ⟨w1, hstep, hinv1⟩ := tinv_step fs0 slots hs done op w h _ hsl
      (by rw [cwdStr, h.cwd]; exact hsp op List.mem_cons_self _ hsl) hop.genOK hop.names hop.idents
    obtain ⟨w', hrun, hinv'⟩ := ih w1 hinv1 (fun o ho => hr o (List.mem_cons_of_mem _ ho)) (fun o ho => hsp o (List.mem_cons_of_mem _ ho)) hok
    exact ⟨w', by simp only [runOpsTo, hsl, hstep, hrun], hinv'⟩

theorem TOpsOK.gens {slots : List TSlot} {cwd0 : Str} {ops : List TOp} (h : TOpsOK slots cwd0 ops) : OpsGensOK (ops.map (·.1)) :=
  opsGensOK_of (List.forall_mem_map.mpr h.genOK) h.names h.idents

theorem tmulti_history (slots : List TSlot) (w : World) (ops : List TOp) (hs : TSlotsOK w.fs slots) (hok : TOpsOK slots (cwdStr w.fs) ops)
    (hp : w.poisoned = false) (hreg : ∀ s ∈ slots, regGet w.reg (regKey s.path) = none) :
    ∃ w', runOpsTo slots w ops = (w', true) ∧ TInv w.fs slots (ops.map (·.1)) w' := by
  simpa using tmulti_repeats w.fs slots hs (dedup_all_new ops []) w (tinv_init slots w hs hp hreg) hok.inRange hok.spelled
    (by simpa using hok.gens)

theorem topsOK_perm (slots : List TSlot) (cwd0 : Str) {a b : List TOp} (h : a.Perm b) (hok : TOpsOK slots cwd0 a) : TOpsOK slots cwd0 b :=
  have g := hok.gens.perm (h.map (·.1))
  ⟨fun op hop => hok.inRange op (h.mem_iff.mpr hop), fun op hop => hok.spelled op (h.mem_iff.mpr hop),
   fun op hop => hok.genOK op (h.mem_iff.mpr hop), fun i => (g i).names, fun i => (g i).idents⟩

end TsRs
