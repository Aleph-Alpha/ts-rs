import TsRsVerif.Model.Path
import TsRsVerif.Lemmas.TextLemmas
/-! A path string made of pieces and its components (`components_root_pieces`, `components_pieces`, `pieceComps_forall`). Then
`import_path` on two normalised absolute paths `/A…` (the dependency) and `/B…` (the importing directory): `diff_paths` strips the
common prefix and climbs out of the rest of `B` (`diffLoop_N`); the pieces of that relative path, with `.` in front unless it starts
with `..`, minus the extension `.ts`, are the specifier (`specOfRel_pieces`); a specifier made of such pieces meets every clause of
`specGood` (`specGood_pieces`). -/
namespace TsRs.Path
open TsRs.Text

/-- a file/directory name as `Path::components` can produce it (and that contains no backslash) -/
def NameOK (n : Str) : Prop :=
  n ≠ [] ∧ '/' ∉ n ∧ '\\' ∉ n ∧ n ≠ ['.'] ∧ n ≠ ['.', '.']

instance (n : Str) : Decidable (NameOK n) := by unfold NameOK; infer_instance

/-- a name as `Path::components` yields it -/
def CompName (n : Str) : Prop := n ≠ [] ∧ '/' ∉ n ∧ n ≠ ['.'] ∧ n ≠ ['.', '.']

def N (ns : List Str) : List Comp := ns.map Comp.normal

def ups (bs : List Str) : List Str := bs.map fun _ => ['.', '.']

@[simp] theorem map_compStr_N (ns : List Str) : (N ns).map compStr = ns := by
  simp [N, compStr, Function.comp_def]

theorem components_root_pieces (ps : List Str) (h : ∀ q ∈ ps, '/' ∉ q) :
    components ('/' :: intercalate ['/'] ps) = Comp.root :: pieceComps false ps := by
  cases ps with
  | nil => rfl
  | cons p ps => rw [components, splitChar_intercalate '/' _ (by simp) h]

theorem components_pieces (p : Str) (ps : List Str) (hp : p ≠ []) (h : ∀ q ∈ p :: ps, '/' ∉ q) :
    components (intercalate ['/'] (p :: ps)) = pieceComps true (p :: ps) := by
  obtain ⟨c, cs, rfl⟩ := List.exists_cons_of_ne_nil hp
  have hc : c ≠ '/' := fun e => h (c :: cs) (by simp) (by simp [e])
  have hs := splitChar_intercalate '/' _ (by simp) h
  obtain ⟨t, ht⟩ : ∃ t, intercalate ['/'] ((c :: cs) :: ps) = c :: t := by
    cases ps with
    | nil => exact ⟨cs, rfl⟩
    | cons q qs => exact ⟨cs ++ ['/'] ++ intercalate ['/'] (q :: qs), by simp [intercalate]⟩
  rw [ht] at hs ⊢
  unfold components
  split
  · rename_i heq; cases heq; exact absurd rfl hc
  · rw [hs]

theorem pieceComps_names (first : Bool) (ns : List Str) (h : ∀ n ∈ ns, CompName n) : pieceComps first ns = N ns := by
  induction ns generalizing first with
  | nil => rfl
  | cons n ns ih =>
    have hn := h n (by simp)
    simp [pieceComps, hn.1, hn.2.2.1, hn.2.2.2, N, ih false fun m hm => h m (by simp [hm])]

theorem components_ofComps (ns : List Str) (h : ∀ n ∈ ns, CompName n) :
    components (ofComps (Comp.root :: N ns)) = Comp.root :: N ns := by
  rw [ofComps, map_compStr_N, components_root_pieces ns fun q hq => (h q hq).2.1, pieceComps_names false ns h]

theorem pieceComps_forall {P : Comp → Prop} (hcur : P .cur) (hpar : P .parent) (ps : List Str)
    (hn : ∀ n ∈ ps, n ≠ [] → n ≠ ['.'] → n ≠ ['.', '.'] → P (.normal n)) (first : Bool) : ∀ c ∈ pieceComps first ps, P c := by
  induction ps generalizing first with
  | nil => simp [pieceComps]
  | cons p ps ih =>
    have ih := fun f => ih (fun n hm => hn n (List.mem_cons_of_mem _ hm)) f
    rw [pieceComps]
    -- one `by_cases` per test: `split` on the chain is dear
    by_cases h0 : p = []
    · rw [if_pos h0]; exact ih _
    by_cases h1 : p = ['.']
    · rw [if_neg h0, if_pos h1]; cases first <;> simpa [hcur] using ih _
    by_cases h2 : p = ['.', '.']
    · rw [if_neg h0, if_neg h1, if_pos h2]; simpa [hpar] using ih _
    · rw [if_neg h0, if_neg h1, if_neg h2]; simpa [hn p List.mem_cons_self h0 h1 h2] using ih _

theorem diffLoop_nil (s : Bool) (bs : List Comp) :
    diffLoop s [] bs = bs.map fun _ => Comp.parent := by
  induction bs generalizing s with
  | nil => cases s <;> rfl
  | cons b bs ih => cases s <;> simp [diffLoop, ih]

/-- **`diff_paths` on names**: drop the common prefix `C`, climb out of what is left of the base, descend into what is left of the path -/
theorem diffLoop_N (A B : List Str) : ∃ C A' B', A = C ++ A' ∧ B = C ++ B' ∧
    diffLoop false (N A) (N B) = B'.map (fun _ => Comp.parent) ++ N A' := by
  induction A generalizing B with
  | nil => exact ⟨[], [], B, rfl, rfl, by simp [N, diffLoop_nil]⟩
  | cons a as ih =>
    cases B with
    | nil => exact ⟨[], a :: as, [], rfl, rfl, by simp [N, diffLoop]⟩
    | cons b bs =>
      by_cases hab : a = b
      · subst hab
        obtain ⟨C, A', B', h1, h2, h3⟩ := ih bs
        exact ⟨a :: C, A', B', by simp [h1], by simp [h2], by simpa [N, diffLoop] using h3⟩
      · exact ⟨[], a :: as, b :: bs, rfl, rfl, by simp [N, diffLoop, hab]⟩

theorem diffLoop_prefix (fd : List Str) (rest : List Comp) (hr : rest ≠ []) :
    diffLoop false (N fd ++ rest) (N fd) = rest := by
  induction fd with
  | nil =>
    cases rest with
    | nil => exact absurd rfl hr
    | cons a as => simp [N, diffLoop]
  | cons a as ih =>
    simp only [N, List.map_cons, List.cons_append, diffLoop]
    simp only [N] at ih
    simp [ih]

theorem resolveLoop_names (dir ps : List Str) (h : ∀ p ∈ ps, p ≠ ['.'] ∧ p ≠ ['.', '.']) :
    resolveLoop dir ps = some (dir ++ ps) := by
  induction ps generalizing dir with
  | nil => simp [resolveLoop]
  | cons p ps ih =>
    have hp := h p (by simp)
    simp [resolveLoop, hp.1, hp.2, ih (dir ++ [p]) (fun q hq => h q (by simp [hq]))]

theorem resolveLoop_ups (pre : List Str) (B : List Str) : ∀ (rest : List Str), resolveLoop (pre ++ B) (ups B ++ rest) = resolveLoop pre rest := by
  induction h : B.length generalizing B with
  | zero => intro rest; simp [List.length_eq_zero_iff.mp h, ups]
  | succ n ih =>
    intro rest
    rcases List.eq_nil_or_concat B with rfl | ⟨B', b, rfl⟩
    · simp at h
    · have hn : B'.length = n := by simpa using h
      have : ups (B'.concat b) = ['.', '.'] :: ups B' := by
        simp only [ups, List.map_const', List.concat_eq_append, List.length_append, List.length_singleton, List.replicate_succ]
      rw [this, List.concat_eq_append, List.cons_append, ← List.append_assoc]
      simp only [resolveLoop]
      simpa using ih B' hn rest

theorem ofComps_of_ne_root (cs : List Comp) (h : cs.head? ≠ some Comp.root) : ofComps cs = intercalate ['/'] (cs.map compStr) := by
  cases cs with
  | nil => rfl
  | cons c cs => cases c <;> first | rfl | exact absurd rfl h

theorem ofComps_diff (B' A' : List Str) : ofComps (B'.map (fun _ => Comp.parent) ++ N A') = intercalate ['/'] (ups B' ++ A') := by
  rw [ofComps_of_ne_root _ (by cases B' <;> cases A' <;> simp [N])]
  simp [N, ups, compStr, Function.comp_def]

theorem importPath_eq (esm : Bool) (cwd frm imp dir p b : Str) (A fd : List Str)
    (hdir : parent frm = some dir) (hp : absolute cwd imp = .ok p) (hb : absolute cwd dir = .ok b)
    (hpc : components p = Comp.root :: N A) (hbc : components b = Comp.root :: N fd) :
    importPath esm cwd frm imp = some (.ok (specOfRel esm (ofComps (diffLoop false (N A) (N fd))))) := by
  simp only [importPath, hdir, diffPaths, hp, hb, hpc, hbc, bind, Except.bind, pure, Except.pure]
  simp [diffLoop]

/-- `./` in front of a relative path unless it climbs (export.rs:388-393) -/
def dotted (l : List Str) : List Str := if l.head? = some ['.', '.'] then l else ['.'] :: l

theorem dotted_head (l : List Str) : (dotted l).head? = some ['.'] ∨ (dotted l).head? = some ['.', '.'] := by
  unfold dotted; split <;> simp [*]

theorem dotted_concat (init : List Str) (x : Str) (hx : x ≠ ['.', '.']) : dotted (init ++ [x]) = dotted init ++ [x] := by
  cases init <;> simp [dotted, hx] <;> split <;> simp

theorem mem_dotted (l : List Str) (q : Str) (h : q ∈ dotted l) : q = ['.'] ∨ q ∈ l := by
  unfold dotted at h; split at h <;> simp_all

theorem resolveLoop_dotted (dir l r : List Str) : resolveLoop dir (dotted l ++ r) = resolveLoop dir (l ++ r) := by
  unfold dotted; split <;> simp [resolveLoop]

theorem strPathOf_pieces (l : List Str) (hne : l ≠ []) (h : ∀ q ∈ l, q ≠ [] ∧ '/' ∉ q) (hdot : l.head? ≠ some ['.']) :
    strPathOf (intercalate ['/'] l) = intercalate ['/'] (dotted l) := by
  obtain ⟨p, ps, rfl⟩ := List.exists_cons_of_ne_nil hne
  have hp := (h p (by simp)).1
  have hdot : p ≠ ['.'] := by simpa using hdot
  rw [strPathOf, components_pieces p ps hp fun q hq => (h q hq).2]
  by_cases hpp : p = ['.', '.']
  · simp [pieceComps, hpp, dotted]
  · simp [pieceComps, hp, hdot, hpp, dotted, intercalate]

theorem append_dotTs_ne (tf : Str) : tf ++ dotTs ≠ ['.'] ∧ tf ++ dotTs ≠ ['.', '.'] :=
  ⟨fun e => by simpa [dotTs] using congrArg List.length e, fun e => by simpa [dotTs] using congrArg List.length e⟩

theorem specOfRel_pieces (esm : Bool) (init : List Str) (tf : Str) (h : ∀ q ∈ init ++ [tf ++ dotTs], q ≠ [] ∧ '/' ∉ q)
    (hdot : init.head? ≠ some ['.']) (hts : endsWith dotTs tf = false) :
    specOfRel esm (intercalate ['/'] (init ++ [tf ++ dotTs])) = intercalate ['/'] (dotted init ++ [tf]) ++ (if esm then dotJs else []) := by
  obtain ⟨hx1, hx2⟩ := append_dotTs_ne tf
  have hhead : (init ++ [tf ++ dotTs]).head? ≠ some ['.'] := by
    cases init with
    | nil => simpa using hx1
    | cons a as => simpa using hdot
  have htrim : trimEndMatches dotTs (intercalate ['/'] (dotted init ++ [tf ++ dotTs])) = intercalate ['/'] (dotted init ++ [tf]) := by
    rw [← intercalate_concat_append]
    exact trimEndMatches_once _ _ (by decide) ((endsWith_intercalate_concat (by decide) _ _).trans hts)
  simp only [specOfRel, strPathOf_pieces _ (by simp) h hhead, dotted_concat _ _ hx2, htrim]
  cases esm <;> simp

theorem specGood_pieces (esm : Bool) (fd target S : List Str) (tf : Str)
    (hhead : S.head? = some ['.'] ∨ S.head? = some ['.', '.'])
    (hclean : ∀ q ∈ S ++ [tf ++ dotTs], '/' ∉ q ∧ '\\' ∉ q)
    (hts : endsWith dotTs tf = false) (hjs : esm = false → endsWith dotJs tf = false)
    (hres : resolveLoop fd (S ++ [tf ++ dotTs]) = some target) :
    specGood esm fd target (intercalate ['/'] (S ++ [tf]) ++ (if esm then dotJs else [])) = true := by
  have hctf : '\\' ∉ tf := fun h => (hclean (tf ++ dotTs) (by simp)).2 (List.mem_append_left _ h)
  -- the clauses that do not look at the extension, for any text `x` behind the stem
  have h1 : ∀ x, (startsWith ['.', '/'] (intercalate ['/'] (S ++ [x])) || startsWith ['.', '.', '/'] (intercalate ['/'] (S ++ [x]))) = true := by
    intro x
    cases S with
    | nil => simp at hhead
    | cons s0 rest =>
      rw [List.cons_append, intercalate_cons _ _ _ (by simp)]
      simp only [List.head?_cons, Option.some.injEq] at hhead
      rcases hhead with rfl | rfl <;> simp [startsWith, stripPrefix]
  have h2 : ∀ x, '\\' ∉ x → (intercalate ['/'] (S ++ [tf ++ x])).contains '\\' = false := fun x hx => by
    simpa using not_mem_intercalate '\\' ['/'] (by decide) _ (by
      simpa [or_imp, forall_and, hx, hctf] using fun q hq => (hclean q (List.mem_append_left _ hq)).2)
  have hsplit : splitChar '/' (intercalate ['/'] (S ++ [tf ++ dotTs])) = S ++ [tf ++ dotTs] :=
    splitChar_intercalate '/' _ (by simp) fun q hq => (hclean q hq).1
  cases esm with
  | false =>
    have := h2 [] (by simp)
    rw [List.append_nil] at this
    simp only [specGood, resolve, Bool.false_eq_true, if_false, List.append_nil]
    rw [h1, this, endsWith_intercalate_concat (by decide), endsWith_intercalate_concat (by decide), hts, hjs rfl,
      intercalate_concat_append, hsplit, hres]
    simp
  | true =>
    have e3 : endsWith dotTs (tf ++ dotJs) = false := Bool.eq_false_iff.mpr fun h =>
      absurd ((List.suffix_append_inj_of_length_eq (l₁ := []) (s₁ := dotTs) (s₂ := dotJs) rfl).mp (endsWith_iff.mp h)).2 (by decide)
    simp only [specGood, resolve, if_true, stripSuffix_append, Option.map_some]
    rw [intercalate_concat_append _ tf dotJs, intercalate_concat_append _ tf dotTs, h1, h2 dotJs (by decide),
      endsWith_intercalate_concat (by decide), endsWith_intercalate_concat (by decide), hsplit, hres, e3,
      endsWith_iff.mpr (List.suffix_append _ _)]
    simp

/-- the tail of `import_path` on a relative path made of clean pieces, the last one a file `tf.ts`: its specifier meets C08's clauses
and leads where the pieces lead -/
theorem specGood_specOfRel (esm : Bool) (fd target R : List Str) (tf : Str)
    (hR : ∀ q ∈ R ++ [tf ++ dotTs], q ≠ [] ∧ '/' ∉ q ∧ '\\' ∉ q) (hdot : R.head? ≠ some ['.'])
    (hts : endsWith dotTs tf = false) (hjs : esm = false → endsWith dotJs tf = false)
    (hres : resolveLoop fd (R ++ [tf ++ dotTs]) = some target) :
    specGood esm fd target (specOfRel esm (intercalate ['/'] (R ++ [tf ++ dotTs]))) = true := by
  rw [specOfRel_pieces esm R tf (fun q hq => ⟨(hR q hq).1, (hR q hq).2.1⟩) hdot hts]
  refine specGood_pieces esm fd target _ tf (dotted_head R) (fun q hq => ?_) hts hjs (by rw [resolveLoop_dotted]; exact hres)
  rcases List.mem_append.mp hq with h | h
  · rcases mem_dotted R q h with rfl | h
    · decide
    · exact (hR q (List.mem_append_left _ h)).2
  · exact (hR q (List.mem_append_right _ h)).2

end TsRs.Path
