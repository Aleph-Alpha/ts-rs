import TsRsVerif.Model.Comment
/-! What `escapeClose` writes holds no `*/`, so the block `jsdoc` opens is closed by the `*/` that `jsdoc` writes: for the reader of
comments (`run_block_skip`) and for `splitClose`. -/
namespace TsRs
open Derive Comment

/-- the text contains an adjacent `*/` -/
def hasClose : Str → Bool
  | '*' :: '/' :: _ => true
  | _ :: r => hasClose r
  | [] => false

theorem hasClose_cons (c : Char) (l : Str) : hasClose (c :: l) = ((c = '*' && l.head? = some '/') || hasClose l) := by
  conv => lhs; unfold hasClose
  split
  · rename_i heq; cases heq; simp
  · rename_i hne heq; cases heq
    have : ¬ (c = '*' ∧ l.head? = some '/') := fun ⟨hc, hl⟩ => by
      obtain ⟨t, rfl⟩ := List.head?_eq_some_iff.mp hl; exact hne t hc rfl
    simp [this]
  · rename_i heq; cases heq

theorem escapeClose_head (s : Str) : (escapeClose s).head? = s.head? := by
  unfold escapeClose
  split <;> simp

theorem escapeClose_noClose : ∀ (s : Str), hasClose (escapeClose s) = false := by
  intro s
  fun_induction escapeClose s with
  | case1 rest ih => simp [hasClose_cons, ih]
  | case2 c rest hne ih =>
    -- `*` is followed by what follows it in `rest`, and that is not `/`
    rw [hasClose_cons, ih, escapeClose_head]
    cases rest with
    | nil => simp
    | cons d ds => simpa using fun hc hd => hne ds hc hd
  | case3 => rfl

theorem escapeClose_id (s : Str) : hasClose s = false → escapeClose s = s := by
  fun_induction escapeClose s with
  | case1 rest ih => intro h; rw [hasClose_cons] at h; cases h
  | case2 c rest hne ih => intro h; rw [hasClose_cons] at h; rw [ih (Bool.or_eq_false_iff.mp h).2]
  | case3 => intro _; rfl

theorem escapeClose_sublist (s : Str) : List.Sublist s (escapeClose s) := by
  fun_induction escapeClose s with
  | case1 rest ih => exact (ih.cons_cons _).cons _ |>.cons_cons _
  | case2 c rest _ ih => exact ih.cons_cons _
  | case3 => exact List.Sublist.slnil

/-- in `blockStar` a `*` has just been read, so `l` must not start with `/` either -/
theorem run_block_skip (rest : Str) : ∀ (l : Str),
    (hasClose l = false → run .block (l ++ '*' :: '/' :: rest) = run .code rest) ∧
    (hasClose ('*' :: l) = false → run .blockStar (l ++ '*' :: '/' :: rest) = run .code rest)
  | [] => by constructor <;> intro _ <;> simp [run, step]
  | c :: l => by
    have ih := run_block_skip rest l
    -- behind `c` the reader is in `blockStar` or `block`, and `l` is skipped from there
    have hnext : hasClose (c :: l) = false →
        run (if c = '*' then .blockStar else .block) (l ++ '*' :: '/' :: rest) = run .code rest := fun h => by
      by_cases hc : c = '*'
      · rw [if_pos hc]; exact ih.2 (hc ▸ h)
      · rw [if_neg hc]; rw [hasClose_cons] at h; exact ih.1 (by simpa [hc] using h)
    constructor
    · intro h
      rw [← hnext h]; by_cases hc : c = '*' <;> simp [run, step, hc]
    · intro h
      rw [hasClose_cons] at h
      have hs : c ≠ '/' := by intro e; simp [e] at h
      rw [← hnext (by simpa [hs] using h)]; by_cases hc : c = '*' <;> simp [run, step, hc, hs]

theorem run_append (st : St) (a b : Str) :
    run st (a ++ b) = ((run st a).1 ++ (run (run st a).2 b).1, (run (run st a).2 b).2) := by
  induction a generalizing st with
  | nil => simp [run]
  | cons c a ih =>
    simp only [List.cons_append, run]
    rw [ih]
    simp [List.append_assoc]

theorem run_code_ws {c : Char} (hc : isWs c = true) (rest : Str) : run .code (c :: rest) = run .code rest := by
  have : c ≠ '/' := by rintro rfl; cases hc
  simp [run, step, codeStep, this, hc]

theorem run_congr_closed {p a b : Str} (hp : endState .code p = .code) (h : run .code a = run .code b) :
    run .code (p ++ a) = run .code (p ++ b) := by
  unfold endState at hp
  rw [run_append, run_append .code p b, hp, h]

theorem sig_skip (p x rest : Str) (hp : endState .code p = .code) (hx : run .code (x ++ rest) = run .code rest) :
    sig .code (p ++ (x ++ rest)) = sig .code (p ++ rest) := by
  unfold sig
  rw [run_congr_closed hp hx]

theorem endState_cons (st : St) (c : Char) (s : Str) : endState st (c :: s) = endState (step st c).2 s := rfl

theorem endState_append (st : St) (a b : Str) : endState st (a ++ b) = endState (endState st a) b := by
  simp only [endState, run_append]

theorem splitClose_noClose (rest : Str) : ∀ (l : Str), hasClose l = false →
    splitClose (l ++ '*' :: '/' :: rest) = some (l, rest)
  | [], _ => by simp [splitClose]
  | c :: l, h => by
    rw [hasClose_cons] at h
    rw [List.cons_append, splitClose, splitClose_noClose rest l (Bool.or_eq_false_iff.mp h).2]
    · rfl
    · intro t hc ht; cases l <;> simp_all
end TsRs
