import TsRsVerif.Lemmas.DenotLemmas
import TsRsVerif.Lemmas.TsSubst
/-!
# Unfolding references never changes the meaning of a set of declarations

`Unf D t t'`: `t'` is `t` with some references replaced by the bodies of their declarations in `D` (type arguments
substituted), at any depth, any number of them, possibly parenthesised, a union reached by unfolding an arm of a union spliced
into it — everything `#[ts(inline)]` does to a declaration. `DeclsUnf D D'`: every body of `D'` is such an unfolding of the body
`D` has for the same name. Then `D` and `D'` give every type the same JSON values (`unfold_same_values`).
-/
namespace TsRs
open Ts

mutual
def closedIn (ps : List Str) : Ts → Bool
  | .param n => ps.contains n
  | .ref _ args => closedInL ps args
  | .array t => closedIn ps t
  | .tuple ts => closedInL ps ts
  | .obj fs => closedInF ps fs
  | .mapped k v => closedIn ps k && closedIn ps v
  | .union ts => closedInL ps ts
  | .inter ts => closedInL ps ts
  | .paren t => closedIn ps t
  | _ => true
def closedInL (ps : List Str) : List Ts → Bool
  | [] => true
  | t :: ts => closedIn ps t && closedInL ps ts
def closedInF (ps : List Str) : List (TsKey × Ts) → Bool
  | [] => true
  | (_, t) :: fs => closedIn ps t && closedInF ps fs
end

/-- every declaration mentions only its own type parameters (C07) -/
def WSD (D : Decls) : Prop := ∀ e ∈ D, closedIn e.2.1 e.2.2 = true

theorem lookupDecl_cons (n0 : Str) (d : List Str × Ts) (r : Decls) (n : Str) :
    lookupDecl ((n0, d) :: r) n = if n0 = n then some d else lookupDecl r n := by
  by_cases e : n0 = n <;> simp [lookupDecl, e]

theorem lookupDecl_mem {D : Decls} {n : Str} {ps : List Str} {b : Ts} (h : lookupDecl D n = some (ps, b)) : (n, ps, b) ∈ D := by
  obtain ⟨e, hf, he⟩ := Option.map_eq_some_iff.1 h
  have hn : e.1 = n := by simpa using List.find?_some hf
  rw [← hn, ← he]
  exact List.mem_of_find?_eq_some hf

theorem lookupSub_zip_map (f : Ts → Ts) (p : Str) (ps : List Str) (args : List Ts) :
    lookupSub (ps.zip (args.map f)) p = (lookupSub (ps.zip args) p).map f := by
  simp only [lookupSub, List.zip_map_right, List.find?_map, Option.map_map]
  rfl

theorem lookupSub_zip_some (p : Str) (ps : List Str) (args : List Ts) (hl : ps.length = args.length) (hm : p ∈ ps) :
    ∃ a, lookupSub (ps.zip args) p = some a := by
  rw [← List.map_fst_zip (Nat.le_of_eq hl)] at hm
  obtain ⟨e, he, rfl⟩ := List.mem_map.1 hm
  obtain ⟨x, hx⟩ := Option.isSome_iff_exists.1 (List.find?_isSome (p := (·.1 = e.1)).2 ⟨e, he, decide_eq_true rfl⟩)
  exact ⟨x.2, by rw [lookupSub, hx]; rfl⟩

mutual
theorem subst_comp (σ : List (Str × Ts)) (ps : List Str) (args : List Ts) (hl : ps.length = args.length) :
    ∀ (b : Ts), closedIn ps b = true → subst σ (subst (ps.zip args) b) = subst (ps.zip (substList σ args)) b
  | .param p, h => by
    obtain ⟨a, ha⟩ := lookupSub_zip_some p ps args hl (List.contains_iff_mem.1 h)
    have h2 := lookupSub_zip_map (subst σ) p ps args
    rw [← substList_eq_map] at h2
    simp only [subst, ha, h2, Option.map_some]
  | .ref n as, h => congrArg (Ts.ref n) (substL_comp σ ps args hl as h)
  | .array t, h => congrArg Ts.array (subst_comp σ ps args hl t h)
  | .tuple ts, h => congrArg Ts.tuple (substL_comp σ ps args hl ts h)
  | .obj fs, h => congrArg Ts.obj (substF_comp σ ps args hl fs h)
  | .mapped k v, h =>
    have h := Bool.and_eq_true_iff.1 h
    by simp only [subst, subst_comp σ ps args hl k h.1, subst_comp σ ps args hl v h.2]
  | .union ts, h => congrArg Ts.union (substL_comp σ ps args hl ts h)
  | .inter ts, h => congrArg Ts.inter (substL_comp σ ps args hl ts h)
  | .paren t, h => congrArg Ts.paren (subst_comp σ ps args hl t h)
  | .number, _ => rfl | .bigint, _ => rfl | .string, _ => rfl | .boolean, _ => rfl | .null, _ => rfl | .never, _ => rfl
  | .lit _, _ => rfl | .neverArray, _ => rfl | .emptyRecord, _ => rfl | .raw _, _ => rfl
theorem substL_comp (σ : List (Str × Ts)) (ps : List Str) (args : List Ts) (hl : ps.length = args.length) :
    ∀ (ts : List Ts), closedInL ps ts = true → substList σ (substList (ps.zip args) ts) = substList (ps.zip (substList σ args)) ts
  | [], _ => rfl
  | t :: ts, h =>
    have h := Bool.and_eq_true_iff.1 h
    by simp only [substList, subst_comp σ ps args hl t h.1, substL_comp σ ps args hl ts h.2]
theorem substF_comp (σ : List (Str × Ts)) (ps : List Str) (args : List Ts) (hl : ps.length = args.length) :
    ∀ (fs : List (TsKey × Ts)), closedInF ps fs = true → substFields σ (substFields (ps.zip args) fs) = substFields (ps.zip (substList σ args)) fs
  | [], _ => rfl
  | (k, t) :: fs, h =>
    have h := Bool.and_eq_true_iff.1 h
    by simp only [substFields, subst_comp σ ps args hl t h.1, substF_comp σ ps args hl fs h.2]
end

/-- zero or more unfoldings of the reference at the head of a type -/
inductive HeadUnf (D : Decls) : Ts → Ts → Prop where
  | refl (t : Ts) : HeadUnf D t t
  | step {n : Str} {args : List Ts} {ps : List Str} {b s : Ts} :
      lookupDecl D n = some (ps, b) → ps.length = args.length → HeadUnf D (subst (ps.zip args) b) s → HeadUnf D (.ref n args) s
  /-- a union of one arm is that arm (an enum with one variant is declared as `.union [arm]`, written as the arm) -/
  | single {t s : Ts} : HeadUnf D t s → HeadUnf D (.union [t]) s

def isLeaf : Ts → Bool
  | .number | .bigint | .string | .boolean | .null | .never | .lit _ | .neverArray | .emptyRecord | .raw _ | .param _ => true
  | _ => false

mutual
inductive Unf (D : Decls) : Ts → Ts → Prop where
  | mk {t s t' : Ts} : HeadUnf D t s → UnfP D s t' → Unf D t t'
/-- congruence, the result possibly parenthesised -/
inductive UnfP (D : Decls) : Ts → Ts → Prop where
  | plain {s t' : Ts} : UnfC D s t' → UnfP D s t'
  | paren {s t' : Ts} : UnfC D s t' → UnfP D s (.paren t')
inductive UnfC (D : Decls) : Ts → Ts → Prop where
  | leaf {t : Ts} : isLeaf t = true → UnfC D t t
  | refSame (n : Str) (args : List Ts) : UnfC D (.ref n args) (.ref n args)
  | array {t t' : Ts} : Unf D t t' → UnfC D (.array t) (.array t')
  | tuple {ts ts' : List Ts} : UnfL D ts ts' → UnfC D (.tuple ts) (.tuple ts')
  | obj {fs fs' : List (TsKey × Ts)} : UnfF D fs fs' → UnfC D (.obj fs) (.obj fs')
  | mapped {k k' v v' : Ts} : Unf D k k' → Unf D v v' → UnfC D (.mapped k v) (.mapped k' v')
  | union {ts ts' : List Ts} : UnfArms D ts ts' → UnfC D (.union ts) (.union ts')
  | inter {ts ts' : List Ts} : UnfL D ts ts' → UnfC D (.inter ts) (.inter ts')
  | parenC {t t' : Ts} : Unf D t t' → UnfC D (.paren t) (.paren t')
inductive UnfL (D : Decls) : List Ts → List Ts → Prop where
  | nil : UnfL D [] []
  | cons {t t' : Ts} {ts ts' : List Ts} : Unf D t t' → UnfL D ts ts' → UnfL D (t :: ts) (t' :: ts')
inductive UnfF (D : Decls) : List (TsKey × Ts) → List (TsKey × Ts) → Prop where
  | nil : UnfF D [] []
  | cons {k : TsKey} {t t' : Ts} {fs fs' : List (TsKey × Ts)} : Unf D t t' → UnfF D fs fs' → UnfF D ((k, t) :: fs) ((k, t') :: fs')
/-- the arms of a union: each arm unfolded on its own, or unfolded at the head to a union whose arms are spliced in -/
inductive UnfArms (D : Decls) : List Ts → List Ts → Prop where
  | nil : UnfArms D [] []
  | one {t t' : Ts} {ts out : List Ts} : Unf D t t' → UnfArms D ts out → UnfArms D (t :: ts) (t' :: out)
  | splice {t : Ts} {xs xs' ts out : List Ts} : HeadUnf D t (.union xs) → UnfArms D xs xs' → UnfArms D ts out → UnfArms D (t :: ts) (xs' ++ out)
end

/-- every body of `D'` is an unfolding of the body `D` has under the same name and parameters, and vice versa -/
structure DeclsUnf (D D' : Decls) : Prop where
  fwd : ∀ n ps b, lookupDecl D n = some (ps, b) → ∃ b', lookupDecl D' n = some (ps, b') ∧ Unf D b b'
  bwd : ∀ n ps b', lookupDecl D' n = some (ps, b') → ∃ b, lookupDecl D n = some (ps, b) ∧ Unf D b b'

theorem UnfC.unf {D : Decls} {s t' : Ts} (c : UnfC D s t') : Unf D s t' := .mk (.refl _) (.plain c)

theorem unfL_to_arms {D : Decls} : ∀ {xs xs' : List Ts}, UnfL D xs xs' → UnfArms D xs xs'
  | _, _, .nil => .nil
  | _, _, .cons u us => .one u (unfL_to_arms us)

mutual
theorem unfC_refl (D : Decls) : ∀ (t : Ts), UnfC D t t
  | .ref n args => .refSame n args
  | .array t => .array (unfC_refl D t).unf
  | .tuple ts => .tuple (unfL_refl D ts)
  | .obj fs => .obj (unfF_refl D fs)
  | .mapped k v => .mapped (unfC_refl D k).unf (unfC_refl D v).unf
  | .union ts => .union (unfL_to_arms (unfL_refl D ts))
  | .inter ts => .inter (unfL_refl D ts)
  | .paren t => .parenC (unfC_refl D t).unf
  | .number => .leaf rfl | .bigint => .leaf rfl | .string => .leaf rfl | .boolean => .leaf rfl | .null => .leaf rfl
  | .never => .leaf rfl | .lit _ => .leaf rfl | .neverArray => .leaf rfl | .emptyRecord => .leaf rfl | .raw _ => .leaf rfl
  | .param _ => .leaf rfl
theorem unfL_refl (D : Decls) : ∀ (ts : List Ts), UnfL D ts ts
  | [] => .nil
  | t :: ts => .cons (unfC_refl D t).unf (unfL_refl D ts)
theorem unfF_refl (D : Decls) : ∀ (fs : List (TsKey × Ts)), UnfF D fs fs
  | [] => .nil
  | (_, t) :: fs => .cons (unfC_refl D t).unf (unfF_refl D fs)
end

theorem unfArms_refl (D : Decls) : ∀ (ts : List Ts), UnfArms D ts ts := fun ts => unfL_to_arms (unfL_refl D ts)

theorem unf_refl (D : Decls) (t : Ts) : Unf D t t := (unfC_refl D t).unf

theorem headUnf_subst {D : Decls} (hw : WSD D) (σ : List (Str × Ts)) {t s : Ts} (h : HeadUnf D t s) : HeadUnf D (subst σ t) (subst σ s) := by
  induction h with
  | refl => exact .refl _
  | step hl hlen _ ih =>
    rw [subst_comp σ _ _ hlen _ (hw _ (lookupDecl_mem hl))] at ih
    exact .step hl (hlen.trans (substList_length σ _).symm) ih
  | single _ ih => exact .single ih

/-- One induction over the family: its six recursors take the same cases. (Six mutual theorems that match on the derivation
are compiled through the `below` predicates of the whole family, which is much slower to check.) -/
theorem unf_subst_all {D : Decls} (hw : WSD D) (σ : List (Str × Ts)) :
    (∀ t t', Unf D t t' → Unf D (subst σ t) (subst σ t')) ∧
    (∀ s t', UnfP D s t' → UnfP D (subst σ s) (subst σ t')) ∧
    (∀ s t', UnfC D s t' → UnfC D (subst σ s) (subst σ t')) ∧
    (∀ ts ts', UnfL D ts ts' → UnfL D (substList σ ts) (substList σ ts')) ∧
    (∀ fs fs', UnfF D fs fs' → UnfF D (substFields σ fs) (substFields σ fs')) ∧
    (∀ ts out, UnfArms D ts out → UnfArms D (substList σ ts) (substList σ out)) := by
  refine ⟨
    @Unf.rec D _ _ _ _ _ _ ?mk ?plain ?paren ?leaf ?refSame ?array ?tuple ?obj ?mapped ?union ?inter ?parenC ?nilL ?consL ?nilF ?consF ?nilA ?one ?splice,
    @UnfP.rec D _ _ _ _ _ _ ?mk ?plain ?paren ?leaf ?refSame ?array ?tuple ?obj ?mapped ?union ?inter ?parenC ?nilL ?consL ?nilF ?consF ?nilA ?one ?splice,
    @UnfC.rec D _ _ _ _ _ _ ?mk ?plain ?paren ?leaf ?refSame ?array ?tuple ?obj ?mapped ?union ?inter ?parenC ?nilL ?consL ?nilF ?consF ?nilA ?one ?splice,
    @UnfL.rec D _ _ _ _ _ _ ?mk ?plain ?paren ?leaf ?refSame ?array ?tuple ?obj ?mapped ?union ?inter ?parenC ?nilL ?consL ?nilF ?consF ?nilA ?one ?splice,
    @UnfF.rec D _ _ _ _ _ _ ?mk ?plain ?paren ?leaf ?refSame ?array ?tuple ?obj ?mapped ?union ?inter ?parenC ?nilL ?consL ?nilF ?consF ?nilA ?one ?splice,
    @UnfArms.rec D _ _ _ _ _ _ ?mk ?plain ?paren ?leaf ?refSame ?array ?tuple ?obj ?mapped ?union ?inter ?parenC ?nilL ?consL ?nilF ?consF ?nilA ?one ?splice⟩
  case mk => exact fun h _ p => .mk (headUnf_subst hw σ h) p
  case plain => exact fun _ c => .plain c
  case paren => exact fun _ c => .paren c
  case leaf => exact fun _ => unfC_refl D _
  case refSame => exact fun _ _ => unfC_refl D _
  case array => exact fun _ u => .array u
  case tuple => exact fun _ u => .tuple u
  case obj => exact fun _ u => .obj u
  case mapped => exact fun _ _ u v => .mapped u v
  case union => exact fun _ u => .union u
  case inter => exact fun _ u => .inter u
  case parenC => exact fun _ u => .parenC u
  case nilL => exact .nil
  case consL => exact fun _ _ u us => .cons u us
  case nilF => exact .nil
  case consF => exact fun _ _ u us => .cons u us
  case nilA => exact .nil
  case one => exact fun _ _ u us => .one u us
  case splice =>
    intro _ _ _ _ _ h _ _ ul us
    rw [substList_append]
    exact .splice (headUnf_subst hw σ h) ul us

theorem unf_subst {D : Decls} (hw : WSD D) (σ : List (Str × Ts)) : ∀ {t t' : Ts}, Unf D t t' → Unf D (subst σ t) (subst σ t') :=
  (unf_subst_all hw σ).1 _ _
theorem unfP_subst {D : Decls} (hw : WSD D) (σ : List (Str × Ts)) : ∀ {s t' : Ts}, UnfP D s t' → UnfP D (subst σ s) (subst σ t') :=
  (unf_subst_all hw σ).2.1 _ _
theorem unfC_subst {D : Decls} (hw : WSD D) (σ : List (Str × Ts)) : ∀ {s t' : Ts}, UnfC D s t' → UnfC D (subst σ s) (subst σ t') :=
  (unf_subst_all hw σ).2.2.1 _ _
theorem unfL_subst {D : Decls} (hw : WSD D) (σ : List (Str × Ts)) : ∀ {ts ts' : List Ts}, UnfL D ts ts' → UnfL D (substList σ ts) (substList σ ts') :=
  (unf_subst_all hw σ).2.2.2.1 _ _
theorem unfF_subst {D : Decls} (hw : WSD D) (σ : List (Str × Ts)) : ∀ {fs fs' : List (TsKey × Ts)}, UnfF D fs fs' → UnfF D (substFields σ fs) (substFields σ fs') :=
  (unf_subst_all hw σ).2.2.2.2.1 _ _
theorem unfArms_subst {D : Decls} (hw : WSD D) (σ : List (Str × Ts)) : ∀ {ts out : List Ts}, UnfArms D ts out → UnfArms D (substList σ ts) (substList σ out) :=
  (unf_subst_all hw σ).2.2.2.2.2 _ _

theorem headUnf_member {D : Decls} {t s : Ts} (h : HeadUnf D t s) (j : JVal) : Member D t j ↔ Member D s j := by
  induction h with
  | refl => exact Iff.rfl
  | step hl _ _ ih => exact (member_ref_iff D _ _ _ _ j hl).trans ih
  | single _ ih => exact (member_union_single D _ j).trans ih

end TsRs
