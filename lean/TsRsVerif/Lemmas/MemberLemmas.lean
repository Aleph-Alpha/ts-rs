import TsRsVerif.Lemmas.MemberInd
import TsRsVerif.Lemmas.ListLemmas
/-! Building blocks of C01: `JVal.lookup`, and how `Member` of an exact object type is assembled from its entries. -/
namespace TsRs.Ts

theorem lookup_cons_ne {k k' : Str} {v : JVal} {kvs : List (Str × JVal)} (h : k' ≠ k) :
    JVal.lookup k ((k', v) :: kvs) = JVal.lookup k kvs := by
  simp [JVal.lookup, h]

theorem lookup_some_mem {k : Str} {v : JVal} : ∀ {kvs : List (Str × JVal)}, JVal.lookup k kvs = some v → (k, v) ∈ kvs
  | (k', v') :: rest, h => by
    simp only [JVal.lookup] at h
    split at h
    · rename_i hk; cases h; subst hk; exact List.mem_cons_self ..
    · exact List.mem_cons_of_mem _ (lookup_some_mem h)

theorem lookup_eq_none_iff {k : Str} : ∀ {kvs : List (Str × JVal)}, JVal.lookup k kvs = none ↔ k ∉ kvs.map (·.1)
  | [] => by simp [JVal.lookup]
  | (k', v) :: kvs => by
    by_cases h : k' = k
    · simp [JVal.lookup, h]
    · rw [lookup_cons_ne h, lookup_eq_none_iff, List.map_cons, List.mem_cons, not_or]
      exact ⟨fun hn => ⟨Ne.symm h, hn⟩, fun hn => hn.2⟩

theorem lookup_of_mem_nodup {k : Str} {v : JVal} {kvs : List (Str × JVal)} (hnd : (kvs.map (·.1)).Nodup) (h : (k, v) ∈ kvs) :
    JVal.lookup k kvs = some v := by
  cases hl : JVal.lookup k kvs with
  | none => exact absurd (List.mem_map_of_mem h) (lookup_eq_none_iff.1 hl)
  | some v' => rw [(Prod.mk.inj (eq_of_nodup_map hnd (lookup_some_mem hl) h rfl)).2]

theorem memberFields_congr {D : Decls} {fs : List (TsKey × Ts)} {kvs kvs' : List (Str × JVal)}
    (hl : ∀ f ∈ fs, JVal.lookup f.1.name kvs' = JVal.lookup f.1.name kvs) (h : MemberFields D fs kvs) :
    MemberFields D fs kvs' :=
  memberFields_iff.2 fun f hf => by rw [hl f hf]; exact h.fieldsP f hf

theorem member_obj_one {D : Decls} {k : Str} {T : Ts} {j : JVal} (h : Member D T j) :
    Member D (.obj [({ name := k }, T)]) (.obj [(k, j)]) :=
  .obj (.present (v := j) (by simp [JVal.lookup]) h .nil) (by simp [JVal.keys])

/-- the tag of a tagged struct or variant goes in front, under a name not yet declared -/
theorem member_obj_cons {D : Decls} {k : Str} {T : Ts} {j : JVal} {fs : List (TsKey × Ts)} {kvs : List (Str × JVal)}
    (hk : k ∉ fs.map (·.1.name)) (hm : Member D T j) (h : Member D (.obj fs) (.obj kvs)) :
    Member D (.obj (({ name := k }, T) :: fs)) (.obj ((k, j) :: kvs)) := by
  cases h with
  | obj hf hkeys =>
    refine .obj (.present (v := j) (by simp [JVal.lookup]) hm (memberFields_congr (fun f hf' => lookup_cons_ne ?_) hf)) ?_
    · rintro rfl; exact hk (List.mem_map_of_mem hf')
    · intro k' hk'
      rcases List.mem_cons.1 hk' with rfl | hk'
      · exact ⟨_, List.mem_cons_self .., rfl⟩
      · obtain ⟨f, hf', hn⟩ := hkeys k' hk'
        exact ⟨f, List.mem_cons_of_mem _ hf', hn⟩

/-- Nothing is asked of the keys of the JSON object: `lookup` takes the first entry under a name, and `hkv` covers that entry. -/
theorem member_obj_intro {D : Decls} {fs : List (TsKey × Ts)} {kvs : List (Str × JVal)}
    (hfs : (fs.map (·.1.name)).Nodup)
    (hkv : ∀ kv ∈ kvs, ∃ f ∈ fs, f.1.name = kv.1 ∧ Member D f.2 kv.2)
    (hreq : ∀ f ∈ fs, f.1.optional = true ∨ f.1.name ∈ kvs.map (·.1)) : Member D (.obj fs) (.obj kvs) := by
  refine .obj (memberFields_iff.2 fun f hf => ?_) fun k hk => ?_
  · cases hl : JVal.lookup f.1.name kvs with
    | some v =>
      obtain ⟨f', hf', hn, hm⟩ := hkv _ (lookup_some_mem hl)
      rw [eq_of_nodup_map hfs hf hf' hn.symm]
      exact .inl ⟨v, rfl, hm⟩
    | none => exact .inr ⟨rfl, (hreq f hf).resolve_right (lookup_eq_none_iff.1 hl)⟩
  · obtain ⟨kv, hkv', rfl⟩ := List.mem_map.1 hk
    obtain ⟨f, hf, hn, _⟩ := hkv kv hkv'
    exact ⟨f, hf, hn⟩

end TsRs.Ts
