import TsRsVerif.Model.De
import TsRsVerif.Model.DeFrag
import TsRsVerif.Lemmas.TreeBasics
import TsRsVerif.Lemmas.BuiltinLemmas
/-! What the completeness theorem of the acceptance model (`DeComplete2`, C02) is built from: the verdict "rank at most 1 for all
sufficient fuel" (`Good`) and how it combines; the types the model reads (`tyOk`; `tyOkP` becomes `tyOk` when closed arguments are put in);
transparent wrappers stripped (`unwrapTy`); leaves (`accPrim_member`); objects with distinct keys. -/
namespace TsRs
open Ts Builtin De

theorem wfJF_lookup : ∀ {kvs : List (Str × JVal)} {k : Str} {v : JVal}, wfJF kvs = true → JVal.lookup k kvs = some v → wfJ v = true
  | [], _, _, _, h => nomatch h
  | (k', v') :: kvs, k, v, hw, h => by
    simp only [wfJF, Bool.and_eq_true] at hw
    simp only [JVal.lookup] at h
    split at h
    · simp only [Option.some.injEq] at h; subst h; exact hw.1
    · exact wfJF_lookup hw.2 h

theorem tyOkL_eq_all (limit : Nat) : ∀ ts, tyOkL limit ts = ts.all (tyOk limit)
  | [] => rfl
  | t :: ts => by rw [tyOkL, tyOkL_eq_all limit ts, List.all_cons]

theorem tyOkPL_eq_all (limit : Nat) (ps : List Str) : ∀ ts, tyOkPL limit ps ts = ts.all (tyOkP limit ps)
  | [] => rfl
  | t :: ts => by rw [tyOkPL, tyOkPL_eq_all limit ps ts, List.all_cons]

theorem tyOkP_of_tyOk (limit : Nat) (ps : List Str) : ∀ (t : RTy), tyOk limit t = true → tyOkP limit ps t = true := by
  intro t
  induction t using RTy.induct with
  | prim r | param _ => simp [tyOk, tyOkP]
  | option t ih | vec t ih | slice t ih | set t ih | range t ih => simpa only [tyOk, tyOkP] using ih
  | arr t n ih | wrap w t ih | map k v _ ih => simp only [tyOk, tyOkP, Bool.and_eq_true]; exact fun h => ⟨h.1, ih h.2⟩
  | result t e ih1 ih2 => simp only [tyOk, tyOkP, Bool.and_eq_true]; exact fun h => ⟨ih1 h.1, ih2 h.2⟩
  | tuple ts ih | named _ ts ih =>
    simp only [tyOk, tyOkP, tyOkL_eq_all, tyOkPL_eq_all, List.all_eq_true]
    exact fun h t ht => ih t ht (h t ht)

theorem tyOkPL_of_tyOkL (limit : Nat) (ps : List Str) : ∀ (ts : List RTy), tyOkL limit ts = true → tyOkPL limit ps ts = true := by
  simp only [tyOkL_eq_all, tyOkPL_eq_all, List.all_eq_true]
  exact fun ts h t ht => tyOkP_of_tyOk limit ps t (h t ht)

theorem tyOkL_mem {limit : Nat} : ∀ {ts : List RTy}, tyOkL limit ts = true → ∀ t ∈ ts, tyOk limit t = true :=
  fun {ts} h => List.all_eq_true.mp (tyOkL_eq_all limit ts ▸ h)

theorem tyOk_subst (limit : Nat) (σ : List (Str × RTy)) (hσ : ∀ p ∈ σ, tyOk limit p.2 = true) (ps : List Str) (hcl : ∀ n ∈ ps, (σ.find? (·.1 = n)).isSome) :
    ∀ (t : RTy), tyOkP limit ps t = true → tyOk limit (RTy.subst σ t) = true := by
  intro t
  induction t using RTy.induct with
  | prim r => simp [tyOk, tyOkP, RTy.subst]
  | option t ih | vec t ih | slice t ih | set t ih | range t ih => simpa only [tyOk, tyOkP, RTy.subst] using ih
  | arr t n ih | wrap w t ih => simp only [tyOk, tyOkP, RTy.subst, Bool.and_eq_true]; exact fun h => ⟨h.1, ih h.2⟩
  | map k v _ ih =>
    simp only [tyOk, tyOkP, RTy.subst, Bool.and_eq_true]
    rintro ⟨hk, hv⟩
    cases k <;> simp at hk
    exact ⟨hk, ih hv⟩
  | result t e ih1 ih2 => simp only [tyOk, tyOkP, RTy.subst, Bool.and_eq_true]; exact fun h => ⟨ih1 h.1, ih2 h.2⟩
  | tuple ts ih | named _ ts ih =>
    simp only [tyOk, tyOkP, RTy.subst, tyOkL_eq_all, tyOkPL_eq_all, substL_eq_map, List.all_map, List.all_eq_true]
    exact fun h t ht => ih t ht (h t ht)
  | param n =>
    intro h
    simp only [tyOkP, List.contains_iff_mem] at h
    simp only [RTy.subst]
    cases hf : σ.find? (·.1 = n) with
    | none => have := hcl n h; simp [hf] at this
    | some p => simpa using hσ p (List.mem_of_find?_eq_some hf)

theorem tyOkL_subst (limit : Nat) (σ : List (Str × RTy)) (hσ : ∀ p ∈ σ, tyOk limit p.2 = true) (ps : List Str) (hcl : ∀ n ∈ ps, (σ.find? (·.1 = n)).isSome) :
    ∀ (ts : List RTy), tyOkPL limit ps ts = true → tyOkL limit (RTy.substL σ ts) = true := by
  simp only [tyOkL_eq_all, tyOkPL_eq_all, substL_eq_map, List.all_map, List.all_eq_true]
  exact fun ts h t ht => tyOk_subst limit σ hσ ps hcl t (h t ht)

/-- strip the transparent wrappers at the head -/
def unwrapTy : RTy → RTy
  | .wrap _ t => unwrapTy t
  | t => t

theorem unwrapTy_spec (limit : Nat) (nameN : Str → List Ts → Option Ts) (accN : Str → List RTy → JVal → Nat) (j : JVal) :
    ∀ (t : RTy), tyOk limit t = true →
      nameTyB limit nameN (unwrapTy t) = nameTyB limit nameN t ∧ accB accN (unwrapTy t) j = accB accN t j ∧ tyOk limit (unwrapTy t) = true
        ∧ (∀ w u, unwrapTy t ≠ .wrap w u) := by
  intro t h
  induction t using RTy.induct with
  | wrap w t ih =>
    simp only [tyOk, Bool.and_eq_true, bne_iff_ne, ne_eq] at h
    obtain ⟨⟨h1, h2⟩, h3⟩ := h
    simp only [unwrapTy, nameTyB, accB, h1, h2, decide_false, Bool.or_self, Bool.false_eq_true, if_false]
    exact ih h3
  | _ => exact ⟨rfl, rfl, h, fun _ _ e => nomatch e⟩

/-- "for all sufficient fuel the rank is at most 1" -/
def Good (X : Nat → Nat) : Prop := ∃ f0, ∀ f, f0 ≤ f → X f ≤ 1

theorem Good.const {n : Nat} (h : n ≤ 1) : Good (fun _ => n) := ⟨0, fun _ _ => h⟩

theorem Good.le {X Y : Nat → Nat} (h : Good X) (e : ∀ f, Y f ≤ X f) : Good Y :=
  h.imp fun _ ha f hf => Nat.le_trans (e f) (ha f hf)

theorem Good.congr {X Y : Nat → Nat} (h : Good X) (e : ∀ f, Y f = X f) : Good Y := h.le fun f => Nat.le_of_eq (e f)

theorem Good.max {X Y : Nat → Nat} (hx : Good X) (hy : Good Y) : Good (fun f => Nat.max (X f) (Y f)) := by
  obtain ⟨a, ha⟩ := hx
  obtain ⟨b, hb⟩ := hy
  exact ⟨Nat.max a b, fun f hf => Nat.max_le.mpr
    ⟨ha f (Nat.le_trans (Nat.le_max_left a b) hf), hb f (Nat.le_trans (Nat.le_max_right a b) hf)⟩⟩

/-- one unit of fuel: only large fuel matters, so what `Y` is at fuel `0` does not -/
theorem Good.step {X Y : Nat → Nat} (h : Good X) (e : ∀ f, Y (f + 1) ≤ X f) : Good Y := by
  obtain ⟨a, ha⟩ := h
  refine ⟨a + 1, fun f hf => ?_⟩
  obtain ⟨f', rfl⟩ := Nat.exists_eq_add_one_of_ne_zero (Nat.ne_zero_of_lt hf)
  exact Nat.le_trans (e f') (ha f' (Nat.le_of_succ_le_succ hf))

theorem Good.zero {X : Nat → Nat} (e : ∀ f, X (f + 1) = 0) : Good X :=
  (Good.const (Nat.zero_le 1)).step fun f => Nat.le_of_eq (e f)

theorem Good.shift {X : Nat → Nat} (h : Good X) : Good (fun f => match f with | 0 => 2 | f' + 1 => X f') :=
  h.step fun _ => Nat.le_refl _

theorem accPrim_member (D : Decls) (htab : TableOK) (r : String) (c : PrimClass) (T : Ts) (j : JVal)
    (hcl : primClass r = some c) (hT : primTs r = some T) (m : Member D T j) : accPrim c j ≤ 1 := by
  have hT := primTs_of_class htab hcl hT
  cases c with
  | int lo hi nz =>
    rcases hT with rfl | rfl
    · cases m with
      | numberInt i => simp only [accPrim]; split <;> omega
      | numberFloat _ => simp [accPrim]
    · cases m with
      | bigint i => simp only [accPrim]; split <;> omega
  | float | bool | string | unit => cases hT; cases m <;> simp [accPrim]
  | char => cases hT; cases m; simp only [accPrim]; split <;> omega

theorem lookup_mem_keys {k : Str} {v : JVal} : ∀ {kvs : List (Str × JVal)}, JVal.lookup k kvs = some v → k ∈ kvs.map (·.1) :=
  fun h => List.mem_map_of_mem (lookup_some_mem h)

theorem single_key {n : Str} {c : JVal} : ∀ {kvs : List (Str × JVal)}, (∀ k ∈ kvs.map (·.1), k = n) → (kvs.map (·.1)).Nodup →
    JVal.lookup n kvs = some c → kvs = [(n, c)]
  | [], _, _, h => by simp [JVal.lookup] at h
  | (k', v') :: rest, hall, hnd, h => by
    have hk : k' = n := hall k' (by simp)
    subst hk
    simp only [JVal.lookup, if_true, Option.some.injEq] at h
    subst h
    cases rest with
    | nil => rfl
    | cons e r =>
      exfalso
      have he : e.1 = k' := hall e.1 (by simp)
      simp only [List.map_cons, List.nodup_cons, List.mem_cons, not_or] at hnd
      exact hnd.1.1 he.symm

theorem wfJ_obj {kvs : List (Str × JVal)} (h : wfJ (.obj kvs) = true) : (kvs.map (·.1)).Nodup ∧ wfJF kvs = true := by
  simpa [wfJ] using h

theorem isNull_iff (j : JVal) : isNull j = true ↔ j = .null := by cases j <;> simp [isNull]

theorem some_map_inj {α β} {f : α → β} {o : Option α} {b : β} (h : o.map f = some b) : ∃ a, o = some a ∧ f a = b :=
  Option.map_eq_some_iff.mp h

end TsRs
