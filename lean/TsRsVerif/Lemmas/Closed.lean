import TsRsVerif.Lemmas.CommentLemmas
import TsRsVerif.Lemmas.QuoteLemmas
import TsRsVerif.Lemmas.ListLemmas
/-!
# Lexically closed texts

A text is *closed* when a reader that starts in code is in code again at its end: no comment, no string literal and no pending `/`
is left open. Closed: every text without `/` and quotes (identifiers, punctuation, numbers, white space); every string literal whose
body escapes its quote and the backslash; every concatenation of closed texts. This discharges the context hypothesis of the C15
theorems for renderings built from such pieces.
-/
namespace TsRs
namespace Comment

def Closed (s : Str) : Prop := endState .code s = .code

theorem Closed.nil : Closed [] := rfl

theorem Closed.append {a b : Str} (ha : Closed a) (hb : Closed b) : Closed (a ++ b) := by
  rw [Closed, endState_append, ha, hb]

theorem Closed.flatten : ∀ (xs : List Str), (∀ x ∈ xs, Closed x) → Closed xs.flatten :=
  flatten_of_append Closed.nil Closed.append

theorem closed_plain : ∀ (s : Str), (∀ c ∈ s, c ≠ '/' ∧ isQuote c = false) → Closed s
  | [], _ => rfl
  | c :: s, h => by
    have hc := h c (by simp)
    have : (step .code c).2 = .code := by
      simp only [step, codeStep, hc.1, hc.2, if_false, Bool.false_eq_true]; split <;> rfl
    rw [Closed, endState_cons, this]
    exact closed_plain s fun d hd => h d (by simp [hd])

/-- the body of a string literal delimited by `q`: ordinary characters other than `q` and the backslash, and backslash escapes
(the backslash followed by any one character) -/
inductive LitBody (q : Char) : Str → Prop where
  | nil : LitBody q []
  | char {c : Char} {r : Str} : c ≠ q → c ≠ '\\' → LitBody q r → LitBody q (c :: r)
  | esc {c : Char} {r : Str} : LitBody q r → LitBody q ('\\' :: c :: r)

theorem LitBody.append {q : Char} {a b : Str} (ha : LitBody q a) (hb : LitBody q b) : LitBody q (a ++ b) := by
  induction ha with
  | nil => exact hb
  | char h1 h2 _ ih => exact LitBody.char h1 h2 ih
  | esc _ ih => exact LitBody.esc ih

theorem litBodyB_sound (q : Char) : ∀ (s : Str), litBodyB q s = true → LitBody q s
  | [], _ => LitBody.nil
  | [c], h => by
    simp only [litBodyB, Bool.and_eq_true, bne_iff_ne, ne_eq] at h
    exact LitBody.char h.1 h.2 LitBody.nil
  | c :: d :: r, h => by
    simp only [litBodyB] at h
    by_cases hc : c = '\\'
    · subst hc
      simp only [if_true] at h
      exact LitBody.esc (litBodyB_sound q r h)
    · simp only [hc, if_false, Bool.and_eq_true, bne_iff_ne, ne_eq] at h
      exact LitBody.char h.1 hc (litBodyB_sound q (d :: r) h.2)

theorem endState_litBody {q : Char} {body : Str} (h : LitBody q body) : endState (.str q) body = .str q := by
  induction h with
  | nil => rfl
  | @char c _ h1 h2 _ ih => rw [endState_cons, show (step (.str q) c).2 = .str q by simp [step, h1, h2], ih]
  | esc _ ih => exact ih

theorem closed_lit (q : Char) (hq : isQuote q = true) (body : Str) (h : LitBody q body) : Closed (q :: (body ++ [q])) := by
  have hne : q ≠ '/' ∧ q ≠ '\\' ∧ isWs q = false := by
    simp only [isQuote, Bool.or_eq_true, decide_eq_true_eq] at hq
    rcases hq with rfl | rfl <;> decide
  have h1 : (step .code q).2 = .str q := by simp [step, codeStep, hne, hq]
  rw [Closed, endState_cons, h1, endState_append, endState_litBody h, endState_cons]
  simp [step, hne]; rfl

end Comment
open Case Comment

/-- lexical contract of the escape table: what is written for one character is a literal body (no bare `"`, no dangling backslash) -/
def EscLex (ops : CharOps) : Prop := ∀ c, LitBody '"' (jsEsc (ops.escDebug c))

theorem litBody_plainChars : ∀ (s : Str), (∀ c ∈ s, c ≠ '"' ∧ c ≠ '\\') → LitBody '"' s
  | [], _ => LitBody.nil
  | c :: s, h => LitBody.char (h c (by simp)).1 (h c (by simp)).2 (litBody_plainChars s (fun d hd => h d (by simp [hd])))

theorem LitBody.flatten : ∀ (xs : List Str), (∀ x ∈ xs, LitBody '"' x) → LitBody '"' xs.flatten :=
  flatten_of_append .nil .append

theorem quoteStr_litBody (ops : CharOps) (hok : EscLex ops) (s : Str) :
    ∃ body, quoteStr ops s = '"' :: (body ++ ['"']) ∧ LitBody '"' body :=
  ⟨(s.map fun c => jsEsc (ops.escDebug c)).flatten, rfl, LitBody.flatten _ (by
    intro x hx
    obtain ⟨c, _, rfl⟩ := List.mem_map.mp hx
    exact hok c)⟩

theorem hexOf_plain : ∀ (f n : Nat), ∀ c ∈ hexOf f n, c ≠ '"' ∧ c ≠ '\\'
  | 0, _, c, hc => by simp [hexOf] at hc
  | f + 1, n, c, hc => by
    simp only [hexOf] at hc
    split at hc
    · rename_i h
      simp only [List.mem_singleton] at hc
      subst hc; exact (hexDigit_spec n h).2.2
    · rcases List.mem_append.mp hc with h1 | h1
      · exact hexOf_plain f (n / 16) c h1
      · simp only [List.mem_singleton] at h1
        subst h1; exact (hexDigit_spec _ (Nat.mod_lt _ (by decide))).2.2

theorem EscForm.lex {c : Char} {e : Str} (h : EscForm c e) : LitBody '"' e := by
  cases h with
  | simple d _ _ _ => exact .esc .nil
  | nul _ => exact .esc (litBody_plainChars _ (by decide))
  | hex _ => exact .esc (.char (by decide) (by decide) (.append (litBody_plainChars _ (hexOf_plain 8 c.toNat)) (litBody_plainChars _ (by decide))))
  | plain h1 h2 => exact .char h1 h2 .nil

end TsRs
