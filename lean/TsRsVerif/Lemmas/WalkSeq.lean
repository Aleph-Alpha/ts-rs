import TsRsVerif.Model.Export
/-!
# `export_all` is a sequence of `export_into` steps

`export_recursive` and `visit_dependencies` are read once as a relation (`Walk`); everything else is an induction over it. A walk has
exactly the effect of calling `export_into` for the types it adds to `seen`, in that order, up to and including the first call that
does not return `Ok`, whose outcome is the walk's (`exportRec_steps`, `Ran`). A successful walk adds exactly the types reachable
through exportable dependencies (`exportRec_reach`, from the invariant `Inv` of a depth-first walk).
-/
namespace TsRs.Export

def Exportable (u : Universe) (d : Nat) : Prop := ∃ td, u[d]? = some td ∧ td.outputPath.isNone = false

/-- `d` is an exportable type that `visit_dependencies` of `n` visits -/
def IsDep (u : Universe) (n d : Nat) : Prop :=
  ∃ t, u[n]? = some t ∧ d ∈ t.deps ∧ Exportable u d

/-- reachability through exportable dependencies (the property's `reach`) -/
inductive Reach (u : Universe) (i : Nat) : Nat → Prop where
  | refl : Reach u i i
  | step {j d : Nat} : Reach u i j → IsDep u j d → Reach u i d

/-- invariant of a successful (sub)walk from `seen` to `seen'` -/
structure Inv (u : Universe) (R : Nat → Prop) (seen seen' : List Nat) : Prop where
  mono : ∀ n ∈ seen, n ∈ seen'
  sound : ∀ n ∈ seen', n ∈ seen ∨ R n
  closed : ∀ n ∈ seen', n ∉ seen → ∀ d, IsDep u n d → d ∈ seen'

theorem Inv.refl (u : Universe) (R : Nat → Prop) (s : List Nat) : Inv u R s s :=
  ⟨fun _ h => h, fun _ h => Or.inl h, fun _ h hn => absurd h hn⟩

theorem Inv.trans {u : Universe} {R : Nat → Prop} {s s1 s2 : List Nat}
    (h1 : Inv u R s s1) (h2 : Inv u R s1 s2) : Inv u R s s2 := by
  refine ⟨fun n h => h2.mono n (h1.mono n h), ?_, ?_⟩
  · intro n hn
    rcases h2.sound n hn with h | h
    · exact h1.sound n h
    · exact Or.inr h
  · intro n hn hns d hd
    by_cases h : n ∈ s1
    · exact h2.mono d (h1.closed n h hns d hd)
    · exact h2.closed n hn h d hd

/-- the walk of a node: `i` joins `seen` first, then its dependencies are walked -/
theorem Inv.root {u : Universe} {R : Nat → Prop} {i : Nat} {s s' : List Nat}
    (h : Inv u R (i :: s) s') (hi : R i) (hd : ∀ d, IsDep u i d → d ∈ s') : Inv u R s s' := by
  refine ⟨fun n hn => h.mono n (List.mem_cons_of_mem _ hn), fun n hn => ?_, fun n hn hns d hnd => ?_⟩
  · rcases h.sound n hn with h1 | h1
    · rcases List.mem_cons.mp h1 with rfl | h1
      · exact Or.inr hi
      · exact Or.inl h1
    · exact Or.inr h1
  · by_cases hni : n = i
    · exact hd d (hni ▸ hnd)
    · exact h.closed n hn (by simp [hni, hns]) d hnd

theorem reach_subset (u : Universe) (i : Nat) (s : List Nat) (hi : i ∈ s)
    (hc : ∀ n ∈ s, ∀ d, IsDep u n d → d ∈ s) : ∀ j, Reach u i j → j ∈ s := by
  intro j hj
  induction hj with
  | refl => exact hi
  | step _ hd ih => exact hc _ ih _ hd

/-- `export_into` for the types `order` (indices into the table), one after the other; `true` = every one returned `Ok` -/
def runInto (u : Universe) (dir : Str) : World → List Nat → World × Bool
  | w, [] => (w, true)
  | w, i :: rest =>
    match u[i]? with
    | none => (w, false)
    | some t =>
      match exportInto w t dir with
      | (w', .ok) => runInto u dir w' rest
      | (w', _) => (w', false)

theorem runInto_append (u : Universe) (dir : Str) (a b : List Nat) (w w1 : World) :
    runInto u dir w a = (w1, true) → runInto u dir w (a ++ b) = runInto u dir w1 b := by
  fun_induction runInto u dir w a with
  | case1 => rintro ⟨⟩; rfl
  | case2 => rintro ⟨⟩
  | case3 _ _ _ _ hu _ hex ih => exact fun h => by simpa only [List.cons_append, runInto, hu, hex] using ih h
  | case4 => rintro ⟨⟩

/-- `export_into` for the types `order`: each returned `Ok`, except that the last may have returned `o`, which is then the outcome -/
def Ran (u : Universe) (dir : Str) (w : World) (order : List Nat) (w' : World) (o : Outcome) : Prop :=
  (o = .ok ∧ runInto u dir w order = (w', true)) ∨
  (o ≠ .ok ∧ ∃ (init : List Nat) (j : Nat) (t : TyInfo) (w1 : World), order = init ++ [j] ∧
    runInto u dir w init = (w1, true) ∧ u[j]? = some t ∧ exportInto w1 t dir = (w', o))

theorem Ran.append {u : Universe} {dir : Str} {w w1 w' : World} {a b : List Nat} {o : Outcome}
    (h1 : Ran u dir w a w1 .ok) (h2 : Ran u dir w1 b w' o) : Ran u dir w (a ++ b) w' o := by
  have ha : runInto u dir w a = (w1, true) := h1.elim (·.2) (fun h => absurd rfl h.1)
  rcases h2 with ⟨ho, hb⟩ | ⟨ho, init, j, t, w2, rfl, hb, hj⟩
  · exact Or.inl ⟨ho, by rw [runInto_append u dir a b w w1 ha, hb]⟩
  · exact Or.inr ⟨ho, a ++ init, j, t, w2, by simp, by rw [runInto_append u dir a init w w1 ha, hb], hj⟩

theorem Ran.one {u : Universe} {dir : Str} {w w' : World} {j : Nat} {t : TyInfo} {o : Outcome}
    (hu : u[j]? = some t) (he : exportInto w t dir = (w', o)) : Ran u dir w [j] w' o := by
  by_cases ho : o = .ok
  · subst ho; exact Or.inl ⟨rfl, by simp [runInto, hu, he]⟩
  · exact Or.inr ⟨ho, [], j, t, w, rfl, rfl, hu, he⟩

/-- what a (sub)walk from `seen` to `seen'` did: the types it added, in order, as steps -/
def Walked (u : Universe) (dir : Str) (w : World) (seen : List Nat) (w' : World) (seen' : List Nat) (o : Outcome) : Prop :=
  ∃ order, seen' = order.reverse ++ seen ∧ order.Nodup ∧ (∀ x ∈ order, x ∉ seen) ∧ Ran u dir w order w' o

theorem Walked.refl (u : Universe) (dir : Str) (w : World) (seen : List Nat) : Walked u dir w seen w seen .ok :=
  ⟨[], by simp, by simp, by simp, Or.inl ⟨rfl, rfl⟩⟩

theorem Walked.trans {u : Universe} {dir : Str} {w w1 w' : World} {s s1 s' : List Nat} {o : Outcome}
    (h1 : Walked u dir w s w1 s1 .ok) (h2 : Walked u dir w1 s1 w' s' o) : Walked u dir w s w' s' o := by
  obtain ⟨o1, rfl, hn1, hd1, hs1⟩ := h1
  obtain ⟨o2, rfl, hn2, hd2, hs2⟩ := h2
  exact ⟨o1 ++ o2, by simp, List.nodup_append.mpr ⟨hn1, hn2, fun a ha b hb e => hd2 b hb (by simp [← e, ha])⟩,
    List.forall_mem_append.mpr ⟨hd1, fun x hx hxs => hd2 x hx (by simp [hxs])⟩, hs1.append hs2⟩

/-- what is being walked: one type, or the rest of a dependency list -/
inductive Goal where
  | node (i : Nat)
  | deps (ds : List Nat)

/-- `export_recursive` / `visit_dependencies` as a relation: from world and `seen` set to world, `seen` set and outcome -/
inductive Walk (u : Universe) (dir : Str) : Goal → World → List Nat → World → List Nat → Outcome → Prop where
  | seen {w : World} {seen : List Nat} {i : Nat} : i ∈ seen → Walk u dir (.node i) w seen w seen .ok
  | fail {w w1 : World} {seen : List Nat} {i : Nat} {t : TyInfo} {o : Outcome} :
      i ∉ seen → u[i]? = some t → exportInto w t dir = (w1, o) → o ≠ .ok → Walk u dir (.node i) w seen w1 (i :: seen) o
  | visit {w w1 w' : World} {seen seen' : List Nat} {i : Nat} {t : TyInfo} {o : Outcome} :
      i ∉ seen → u[i]? = some t → exportInto w t dir = (w1, .ok) → Walk u dir (.deps t.deps) w1 (i :: seen) w' seen' o →
      Walk u dir (.node i) w seen w' seen' o
  | nil {w : World} {seen : List Nat} : Walk u dir (.deps []) w seen w seen .ok
  | skip {w w' : World} {seen seen' : List Nat} {d : Nat} {ds : List Nat} {td : TyInfo} {o : Outcome} :
      u[d]? = some td → td.outputPath.isNone = true → Walk u dir (.deps ds) w seen w' seen' o → Walk u dir (.deps (d :: ds)) w seen w' seen' o
  | next {w w2 w' : World} {seen seen2 seen' : List Nat} {d : Nat} {ds : List Nat} {td : TyInfo} {o : Outcome} :
      u[d]? = some td → td.outputPath.isNone = false → Walk u dir (.node d) w seen w2 seen2 .ok →
      Walk u dir (.deps ds) w2 seen2 w' seen' o → Walk u dir (.deps (d :: ds)) w seen w' seen' o
  | stop {w w' : World} {seen seen' : List Nat} {d : Nat} {ds : List Nat} {td : TyInfo} {o : Outcome} :
      u[d]? = some td → td.outputPath.isNone = false → Walk u dir (.node d) w seen w' seen' o → o ≠ .ok →
      Walk u dir (.deps (d :: ds)) w seen w' seen' o

theorem visitDeps_walk (u : Universe) (dir : Str) (recur : World → List Nat → Nat → Option WalkRes)
    (hrec : ∀ w s d w' s' o, recur w s d = some (w', s', o) → Walk u dir (.node d) w s w' s' o)
    (ds : List Nat) (w : World) (seen : List Nat) (w' : World) (seen' : List Nat) (o : Outcome) :
    visitDeps u recur ds w seen = some (w', seen', o) → Walk u dir (.deps ds) w seen w' seen' o := by
  fun_induction visitDeps u recur ds w seen with
  | case1 => rintro ⟨⟩; exact .nil
  | case2 => rintro ⟨⟩
  | case3 _ _ _ _ _ hu hn ih => exact fun h => .skip hu hn (ih h)
  | case4 => rintro ⟨⟩
  | case5 _ _ _ _ _ hu hn _ _ hr ih => exact fun h => .next hu (Bool.eq_false_iff.mpr hn) (hrec _ _ _ _ _ _ hr) (ih h)
  | case6 _ _ _ _ _ hu hn _ _ _ ho hr => rintro ⟨⟩; exact .stop hu (Bool.eq_false_iff.mpr hn) (hrec _ _ _ _ _ _ hr) ho

theorem exportRec_walk (u : Universe) (dir : Str) (fuel : Nat) (w : World) (seen : List Nat) (i : Nat) : ∀ (w' : World) (seen' : List Nat)
    (o : Outcome), exportRec u fuel w seen dir i = some (w', seen', o) → Walk u dir (.node i) w seen w' seen' o := by
  fun_induction exportRec u fuel w seen dir i with
  | case1 => intro _ _ _ h; cases h
  | case2 _ _ _ _ _ hin => rintro _ _ _ ⟨⟩; exact .seen hin
  | case3 => intro _ _ _ h; cases h
  | case4 _ _ _ _ _ hin _ hui _ hex ih => exact fun _ _ _ h => .visit hin hui hex (visitDeps_walk u _ _ ih _ _ _ _ _ _ h)
  | case5 _ _ _ _ _ hin _ hui _ _ ho hex => rintro _ _ _ ⟨⟩; exact .fail hin hui hex ho

theorem Walk.walked {u : Universe} {dir : Str} {g : Goal} {w w' : World} {seen seen' : List Nat} {o : Outcome}
    (h : Walk u dir g w seen w' seen' o) : Walked u dir w seen w' seen' o := by
  induction h with
  | seen _ => exact .refl ..
  | fail hin hui hex _ => exact ⟨[_], by simp, by simp, by simpa using hin, .one hui hex⟩
  | visit hin hui hex _ ih => exact Walked.trans ⟨[_], by simp, by simp, by simpa using hin, .one hui hex⟩ ih
  | nil => exact .refl ..
  | skip _ _ _ ih => exact ih
  | next _ _ _ _ ih1 ih2 => exact ih1.trans ih2
  | stop _ _ _ _ ih => exact ih

def Goal.All (u : Universe) (P : Nat → Prop) : Goal → Prop
  | .node i => P i
  | .deps ds => ∀ d ∈ ds, Exportable u d → P d

/-- `R`: any set closed under dependencies that holds what is to be walked (`exportRec_reach`: the types reachable from the root) -/
theorem Walk.inv {u : Universe} {dir : Str} (R : Nat → Prop) (hR : ∀ n d, R n → IsDep u n d → R d)
    {g : Goal} {w w' : World} {seen seen' : List Nat} {o : Outcome}
    (h : Walk u dir g w seen w' seen' o) (ho : o = .ok) (hg : g.All u R) : Inv u R seen seen' ∧ g.All u (· ∈ seen') := by
  induction h with
  | seen hin => exact ⟨Inv.refl u R _, hin⟩
  | fail _ _ _ hne => exact absurd ho hne
  | @visit _ _ _ _ _ i t _ _ hui _ _ ih =>
    obtain ⟨hinv, hcov⟩ := ih ho (fun d hd he => hR i d hg ⟨t, hui, hd, he⟩)
    refine ⟨hinv.root hg fun d ⟨t', ht', hdm, hde⟩ => ?_, hinv.mono i (by simp)⟩
    cases hui.symm.trans ht'
    exact hcov d hdm hde
  | nil => exact ⟨Inv.refl u R _, fun d hd => by simp at hd⟩
  | @skip _ _ _ _ d _ td _ hu hn _ ih =>
    obtain ⟨hi, hc⟩ := ih ho (List.forall_mem_cons.mp hg).2
    exact ⟨hi, List.forall_mem_cons.mpr ⟨fun ⟨td', h1, h2⟩ => by cases hu.symm.trans h1; simp [hn] at h2, hc⟩⟩
  | @next _ _ _ _ _ _ d _ td _ hu hn _ _ ih1 ih2 =>
    obtain ⟨hgd, hgs⟩ := List.forall_mem_cons.mp hg
    obtain ⟨hi1, hd1⟩ := ih1 rfl (hgd ⟨td, hu, hn⟩)
    obtain ⟨hi2, hc2⟩ := ih2 ho hgs
    exact ⟨hi1.trans hi2, List.forall_mem_cons.mpr ⟨fun _ => hi2.mono _ hd1, hc2⟩⟩
  | stop _ _ _ hne => exact absurd ho hne

theorem exportRec_steps (u : Universe) (dir : Str) (fuel : Nat) (w : World) (seen : List Nat) (i : Nat) (w' : World) (seen' : List Nat)
    (o : Outcome) (h : exportRec u fuel w seen dir i = some (w', seen', o)) : Walked u dir w seen w' seen' o :=
  (exportRec_walk u dir fuel w seen i w' seen' o h).walked

theorem exportRec_reach (u : Universe) (fuel : Nat) (w w' : World) (dir : Str) (i : Nat) (seen' : List Nat)
    (h : exportRec u fuel w [] dir i = some (w', seen', .ok)) (j : Nat) : j ∈ seen' ↔ Reach u i j := by
  obtain ⟨hinv, hi⟩ := (exportRec_walk u dir fuel w [] i w' seen' .ok h).inv (Reach u i) (fun n d hn hd => Reach.step hn hd) rfl Reach.refl
  exact ⟨fun hj => (hinv.sound j hj).resolve_left (by simp),
    reach_subset u i seen' hi (fun n hn d hd => hinv.closed n hn (by simp) d hd) j⟩

theorem exportRec_order (u : Universe) (fuel : Nat) (w w' : World) (dir : Str) (i : Nat) (seen' : List Nat)
    (h : exportRec u fuel w [] dir i = some (w', seen', .ok)) :
    ∃ order : List Nat, order.Nodup ∧ (∀ j, j ∈ order ↔ Reach u i j) ∧ runInto u dir w order = (w', true) := by
  obtain ⟨order, hs, hnd, _, hran⟩ := exportRec_steps u dir fuel w [] i w' seen' .ok h
  exact ⟨order, hnd, fun j => by rw [← exportRec_reach u fuel w w' dir i seen' h j, hs]; simp, hran.elim (·.2) (fun h => absurd rfl h.1)⟩

end TsRs.Export

namespace TsRs
open Export

/-- successful `export_all` calls from the roots, one after the other. Each call walks from its root with a fresh `seen` set, so a type
reachable from two roots is exported twice; the second time the registry knows it. -/
inductive Walks (u : Universe) (dir : Str) (fuel : Nat) : World → List Nat → World → Prop where
  | nil {w : World} : Walks u dir fuel w [] w
  | cons {w w1 w' : World} {r : Nat} {rs s : List Nat} :
      exportRec u fuel w [] dir r = some (w1, s, .ok) → Walks u dir fuel w1 rs w' → Walks u dir fuel w (r :: rs) w'

theorem walks_seq (u : Universe) (dir : Str) (fuel : Nat) {w w' : World} {roots : List Nat} (h : Walks u dir fuel w roots w') :
    ∃ os : List Nat, runInto u dir w os = (w', true) ∧ ∀ j, j ∈ os ↔ ∃ r ∈ roots, Reach u r j := by
  induction h with
  | nil => exact ⟨[], rfl, by simp⟩
  | @cons w0 w1 w2 r rs s hw _ ih =>
    obtain ⟨o1, _, hm1, hr1⟩ := exportRec_order u fuel w0 w1 dir r s hw
    obtain ⟨o2, hr2, hm2⟩ := ih
    refine ⟨o1 ++ o2, by rw [runInto_append u dir o1 o2 w0 w1 hr1]; exact hr2, ?_⟩
    intro j
    simp only [List.mem_append, hm1, hm2, List.mem_cons, exists_eq_or_imp]

end TsRs
