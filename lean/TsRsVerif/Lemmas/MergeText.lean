import TsRsVerif.Lemmas.SplitLemmas
/-! `Merge.merge` on the TEXT of a well-formed file = the insertion loop on its blocks. -/
namespace TsRs
open Text Merge

theorem trimNl_id (d : Str) (hs : startsNl d = false) (he : endsNl d = false) : trimNl d = d := by
  rw [trimNl, trimP, trimStartP_id _ _ fun c hc => by simpa [startsNl, hc] using hs,
    trimEndP_id _ _ fun c hc => by simpa [endsNl, hc] using he]

theorem trimNl_nl (d : Str) (hs : startsNl d = false) (he : endsNl d = false) (hne : d ≠ []) : trimNl (d ++ ['\n']) = d := by
  rw [trimNl, trimP, trimStartP_id _ _ fun c hc => by cases d <;> simp_all [startsNl],
    trimEndP_append _ _ _ (by simp), trimEndP_id _ _ fun c hc => by simpa [endsNl, hc] using he]

/-- a declaration block as `merge` needs it: no blank line inside, no line break at either end, and the name it is
    sorted under is the one `merge` reads back from the text -/
def BlockOK (n d : Str) : Prop :=
  hasNN d = false ∧ startsNl d = false ∧ endsNl d = false ∧ d ≠ [] ∧ declName d = some n

/-- the declarations part of a file: `D1\n\nD2\n\n…\n\nDk\n` -/
def declsText : List Str → Str
  | [] => []
  | [d] => d ++ ['\n']
  | d :: ds => d ++ '\n' :: '\n' :: declsText ds

theorem renderDecls_cons (d : Str) (ds : List Str) : renderDecls (d :: ds) = (['\n'] ++ d ++ ['\n']) ++ renderDecls ds := rfl

theorem renderDecls_eq_declsText : ∀ (ds : List Str), ds ≠ [] → renderDecls ds = '\n' :: declsText ds
  | [d], _ => by simp [declsText, renderDecls]
  | d :: d' :: r, _ => by
    rw [renderDecls_cons, renderDecls_eq_declsText (d' :: r) (by simp)]
    simp [declsText]

theorem split_declsText : ∀ (ds : List Str), ds ≠ [] →
    (∀ d ∈ ds, hasNN d = false ∧ startsNl d = false ∧ endsNl d = false ∧ d ≠ []) → (split nn (declsText ds)).map trimNl = ds
  | [], hne, _ => absurd rfl hne
  | [d], _, h => by
    obtain ⟨h1, h2, h3, h4⟩ := h d (by simp)
    rw [declsText, split_nn_last d h1 h3, List.map_singleton, trimNl_nl d h2 h3 h4]
  | d :: e :: ds, _, h => by
    obtain ⟨h1, h2, h3, _⟩ := h d (by simp)
    rw [show declsText (d :: e :: ds) = d ++ '\n' :: '\n' :: declsText (e :: ds) from rfl, split_nn_piece d _ h1 h3, List.map_cons,
      trimNl_id d h2 h3, split_declsText (e :: ds) (by simp) fun x hx => h x (by simp [hx])]

theorem merge_text (hdrO hdrN : Str) (blocks : List (Str × Str)) (n d : Str) (parsed : List (Str × List Str))
    (hO : ∀ r, NoMatch nn r hdrO) (hN : ∀ r, NoMatch nn r hdrN)
    (hne : blocks ≠ []) (hb : ∀ b ∈ blocks, BlockOK b.1 b.2) (hnew : BlockOK n d)
    (himp : ((lines hdrO).drop 1 ++ (lines hdrN).drop 1).mapM parseImportLine = some parsed) :
    merge (hdrO ++ '\n' :: '\n' :: declsText (blocks.map (·.2))) (hdrN ++ '\n' :: '\n' :: (d ++ ['\n']))
      = .ok (renderImports (parsed.foldl addLine []) ++ renderDecls (insertLoop n d false blocks)) := by
  unfold merge
  rw [splitOnce_nn hdrO _ (hO _), splitOnce_nn hdrN _ (hN _)]
  simp only [himp]
  obtain ⟨hn1, hn2, hn3, hn4, hn5⟩ := hnew
  rw [trimNl_nl d hn2 hn3 hn4, hn5]
  simp only
  have hds : (split nn (declsText (blocks.map (·.2)))).map trimNl = blocks.map (·.2) :=
    split_declsText (blocks.map (·.2)) (by simpa using hne) (by
      intro x hx
      obtain ⟨b, hbm, rfl⟩ := List.mem_map.mp hx
      obtain ⟨a1, a2, a3, a4, _⟩ := hb b hbm
      exact ⟨a1, a2, a3, a4⟩)
  have hnames := mapM_map_eq_some (l := blocks) (g := (·.2)) (f := fun d => (declName d).map fun n => (n, d)) (r := id)
    fun b hbm => by rw [(hb b hbm).2.2.2.2]; rfl
  rw [hds, hnames, List.map_id]

end TsRs
