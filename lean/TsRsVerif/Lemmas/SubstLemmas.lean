import TsRsVerif.Model.TreeDerive
import TsRsVerif.Lemmas.TsSubst
/-! Substituting type arguments commutes with taking the TypeScript name of a type:
    `name(t[σ]) = name(t)[σ']` where `σ'` holds the names of the arguments of `σ`. -/
namespace TsRs
open Ts Builtin

theorem RTy.induct {P : RTy → Prop} (prim : ∀ r, P (.prim r)) (param : ∀ n, P (.param n))
    (option : ∀ t, P t → P (.option t)) (vec : ∀ t, P t → P (.vec t)) (slice : ∀ t, P t → P (.slice t)) (set : ∀ t, P t → P (.set t))
    (arr : ∀ t n, P t → P (.arr t n)) (tuple : ∀ ts, (∀ t ∈ ts, P t) → P (.tuple ts)) (map : ∀ k v, P k → P v → P (.map k v))
    (result : ∀ t e, P t → P e → P (.result t e)) (range : ∀ t, P t → P (.range t)) (wrap : ∀ k t, P t → P (.wrap k t))
    (named : ∀ id args, (∀ t ∈ args, P t) → P (.named id args)) (t : RTy) : P t :=
  RTy.rec (motive_1 := P) (motive_2 := fun ts => ∀ t ∈ ts, P t) prim option vec slice set arr tuple map result range wrap named param
    (fun _ h => nomatch h) (fun _ _ h ih _ ht => (List.mem_cons.mp ht).elim (· ▸ h) (ih _)) t

theorem substL_eq_map (σ : List (Str × RTy)) : ∀ ts, RTy.substL σ ts = ts.map (RTy.subst σ)
  | [] => rfl
  | t :: ts => by rw [RTy.substL, substL_eq_map σ ts, List.map_cons]

theorem rsubst_nil : ∀ (t : RTy), RTy.subst [] t = t := by
  intro t
  induction t using RTy.induct with
  | prim _ | param _ => simp [RTy.subst]
  | option _ ih | vec _ ih | slice _ ih | set _ ih | range _ ih | arr _ _ ih | wrap _ _ ih => simp [RTy.subst, ih]
  | map _ _ ih1 ih2 | result _ _ ih1 ih2 => simp [RTy.subst, ih1, ih2]
  | tuple ts ih | named _ ts ih => simp only [RTy.subst, substL_eq_map, (List.map_congr_left ih).trans ts.map_id']

theorem rsubstL_nil : ∀ (ts : List RTy), RTy.substL [] ts = ts :=
  fun ts => (substL_eq_map [] ts).trans (List.map_id'' rsubst_nil ts)

theorem primTs_cases {r : String} {T : Ts} (h : primTs r = some T) : T = .number ∨ T = .bigint ∨ T = .string ∨ T = .boolean ∨ T = .null := by
  obtain ⟨n, -, h⟩ := Option.bind_eq_some_iff.mp h
  unfold tsOfPrimName at h
  split at h <;> simp at h <;> simp [← h]

theorem nameTyBL_cons {limit : Nat} {nameN : Str → List Ts → Option Ts} {t : RTy} {ts : List RTy} {Xs : List Ts} :
    nameTyBL limit nameN (t :: ts) = some Xs ↔ ∃ X Xr, nameTyB limit nameN t = some X ∧ nameTyBL limit nameN ts = some Xr ∧ Xs = X :: Xr := by
  simp only [nameTyBL, bind, pure, Option.bind_eq_some_iff, Option.some.injEq]
  exact ⟨fun ⟨X, hX, Xr, hXr, e⟩ => ⟨X, Xr, hX, hXr, e.symm⟩, fun ⟨X, Xr, hX, hXr, e⟩ => ⟨X, hX, Xr, hXr, e.symm⟩⟩

theorem nameTyBL_length {limit : Nat} {nameN : Str → List Ts → Option Ts} : ∀ {ts : List RTy} {Xs : List Ts},
    nameTyBL limit nameN ts = some Xs → Xs.length = ts.length
  | [], _, h => by cases h; rfl
  | _ :: _, _, h => by
    obtain ⟨_, _, _, hr, rfl⟩ := nameTyBL_cons.mp h
    rw [List.length_cons, List.length_cons, nameTyBL_length hr]

theorem nameTyBL_params {α : Type} (limit : Nat) (nameN : Str → List Ts → Option Ts) (n : Str) : ∀ (l : List α),
    nameTyBL limit nameN (l.map fun _ => RTy.param n) = some (l.map fun _ => Ts.param n)
  | [] => rfl
  | _ :: l => nameTyBL_cons.mpr ⟨_, _, rfl, nameTyBL_params limit nameN n l, rfl⟩

theorem primTs_closed (r : String) (T : Ts) (σ : List (Str × Ts)) (h : primTs r = some T) : Ts.subst σ T = T := by
  rcases primTs_cases h with rfl | rfl | rfl | rfl | rfl <;> rfl

theorem zip_lookup (limit : Nat) (nameN : Str → List Ts → Option Ts) (n : Str) :
    ∀ (names : List Str) (args : List RTy) (targs : List Ts), nameTyBL limit nameN args = some targs →
    (match ((names.zip args).find? (·.1 = n)).map (·.2) with
     | some a => ∃ ta, nameTyB limit nameN a = some ta ∧ lookupSub (names.zip targs) n = some ta
     | none => lookupSub (names.zip targs) n = none)
  | [], _, _, _ => by simp [lookupSub]
  | _ :: _, [], targs, h => by cases h; simp [lookupSub]
  | nm :: names, a :: args, targs, h => by
    obtain ⟨ta, tr, ha, hr, rfl⟩ := nameTyBL_cons.mp h
    by_cases hn : nm = n
    · simp [lookupSub, ha, hn]
    · simpa only [List.zip_cons_cons, List.find?_cons, hn, decide_false, lookupSub] using zip_lookup limit nameN n names args tr hr

/-- the callback for user types commutes with substitution (true of `Tree.nameN`: a reference to the
declaration, applied to the arguments) -/
def NCommutes (nameN : Str → List Ts → Option Ts) : Prop :=
  ∀ id xs T σ, nameN id xs = some T → nameN id (Ts.substList σ xs) = some (Ts.subst σ T)

section
variable (limit : Nat) (nameN : Str → List Ts → Option Ts) (σ : List (Str × RTy)) (σ' : List (Str × Ts))

theorem nameL_subst_of : ∀ (ts : List RTy),
    (∀ t ∈ ts, ∀ T, nameTyB limit nameN t = some T → nameTyB limit nameN (RTy.subst σ t) = some (Ts.subst σ' T)) →
    ∀ Xs, nameTyBL limit nameN ts = some Xs → nameTyBL limit nameN (RTy.substL σ ts) = some (Ts.substList σ' Xs)
  | [], _, _, h => by cases h; rfl
  | t :: ts, ih, _, h => by
    obtain ⟨X, Xr, hX, hXr, rfl⟩ := nameTyBL_cons.mp h
    exact nameTyBL_cons.mpr ⟨_, _, ih t List.mem_cons_self X hX, nameL_subst_of ts (fun t ht => ih t (List.mem_cons_of_mem _ ht)) Xr hXr, rfl⟩
end

/-- **names commute with substitution** -/
theorem name_subst (limit : Nat) (nameN : Str → List Ts → Option Ts) (hN : NCommutes nameN)
    (names : List Str) (args : List RTy) (targs : List Ts) (hargs : nameTyBL limit nameN args = some targs) :
    ∀ (t : RTy) (T : Ts), nameTyB limit nameN t = some T →
      nameTyB limit nameN (RTy.subst (names.zip args) t) = some (Ts.subst (names.zip targs) T) := by
  intro t
  induction t using RTy.induct with
  | prim r => intro T h; simp only [RTy.subst, h, primTs_closed r T _ h]
  | param n =>
    intro T h
    cases h
    have hz := zip_lookup limit nameN n names args targs hargs
    simp only [RTy.subst, Ts.subst]
    cases hf : ((names.zip args).find? (·.1 = n)).map (·.2) with
    | none => simp only [hf] at hz; simp [hz, nameTyB]
    | some a => simp only [hf] at hz; obtain ⟨ta, h1, h2⟩ := hz; simp [h1, h2]
  | option t ih | vec t ih | slice t ih | set t ih | range t ih =>
    intro T h
    obtain ⟨x, hx, rfl⟩ := Option.map_eq_some_iff.mp (show (nameTyB limit nameN t).map _ = some T from h)
    simp [RTy.subst, nameTyB, ih x hx, Ts.subst, Ts.substList, Ts.substFields]
  | arr t n ih =>
    intro T h
    obtain ⟨x, hx, rfl⟩ := Option.map_eq_some_iff.mp (show (nameTyB limit nameN t).map _ = some T from h)
    simp only [RTy.subst, nameTyB, ih x hx, Option.map_some]
    split <;> simp [Ts.subst, substList_eq_map]
  | wrap k t ih => intro T h; simpa only [RTy.subst, nameTyB] using ih T h
  | map k v ihk ihv | result k v ihk ihv =>
    intro T h
    obtain ⟨K, hK, h⟩ := Option.bind_eq_some_iff.mp (show (nameTyB limit nameN k).bind _ = some T from h)
    obtain ⟨V, hV, h⟩ := Option.bind_eq_some_iff.mp h
    cases h
    simp [RTy.subst, nameTyB, ihk K hK, ihv V hV, Ts.subst, Ts.substList, Ts.substFields, bind, pure]
  | tuple ts ih =>
    intro T h
    obtain ⟨xs, hxs, rfl⟩ := Option.map_eq_some_iff.mp (show (nameTyBL limit nameN ts).map _ = some T from h)
    simp [RTy.subst, nameTyB, nameL_subst_of limit nameN _ _ ts ih xs hxs, Ts.subst]
  | named id as ih =>
    intro T h
    obtain ⟨xs, hxs, h⟩ := Option.bind_eq_some_iff.mp (show (nameTyBL limit nameN as).bind _ = some T from h)
    simp only [RTy.subst, nameTyB, nameL_subst_of limit nameN _ _ as ih xs hxs, Option.bind_some]
    exact hN id xs T _ h

theorem nameL_subst (limit : Nat) (nameN : Str → List Ts → Option Ts) (hN : NCommutes nameN)
    (names : List Str) (args : List RTy) (targs : List Ts) (hargs : nameTyBL limit nameN args = some targs) :
    ∀ (ts : List RTy) (Ts' : List Ts), nameTyBL limit nameN ts = some Ts' →
      nameTyBL limit nameN (RTy.substL (names.zip args) ts) = some (Ts.substList (names.zip targs) Ts') :=
  fun ts => nameL_subst_of limit nameN _ _ ts fun t _ => name_subst limit nameN hN names args targs hargs t

end TsRs
