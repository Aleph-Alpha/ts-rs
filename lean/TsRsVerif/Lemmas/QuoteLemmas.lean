import TsRsVerif.Model.TsParse
import TsRsVerif.Model.Case
/-! `quoteStr` (Rust's `{:?}` of a `str`) read back by the string-literal reader: the literal is closed
    exactly where the generator closed it and decodes to the original text. -/
namespace TsRs
open Case TsParse

/-- the per-character contract between a `CharOps.escDebug` table and the literal reader: what is
written for `c` is read back as `c`, whatever precedes and follows. `asciiOps` satisfies it
(`C04_ascii_table_ok`); for a table taken from Rust at run time the check evaluates it on every row. -/
def EscOk (ops : CharOps) : Prop :=
  ∀ (c : Char) (acc t : Str), litBody .normal acc (jsEsc (ops.escDebug c) ++ t) = litBody .normal (c :: acc) t

/-- the sixteen digits `hexOf` writes: read back by the literal reader, and none of them ends the escape or the literal -/
theorem hexDigit_spec : ∀ d, d < 16 →
    hexVal (hexDigit d) = some d ∧ hexDigit d ≠ '}' ∧ hexDigit d ≠ '"' ∧ hexDigit d ≠ '\\' := by decide

/-! the rows of `litBody` that the written forms meet, under names (`rw [litBody]` picks the row; its side conditions are the
rows above it) -/

theorem litBody_close (acc r : Str) : litBody .normal acc ('"' :: r) = some (acc.reverse, r) := by rw [litBody]

theorem litBody_u (acc t : Str) : litBody .normal acc ('\\' :: 'u' :: '{' :: t) = litBody (.hex 0) acc t := by rw [litBody]

theorem litBody_x00 (acc t : Str) :
    litBody .normal acc ('\\' :: 'x' :: '0' :: '0' :: t) = litBody .normal (Char.ofNat 0 :: acc) t := by
  rw [litBody]; rfl

theorem litBody_esc (c : Char) (acc t : Str) (hu : c ≠ 'u') (hx : c ≠ 'x') :
    litBody .normal acc ('\\' :: c :: t) = litBody .normal (unescChar c :: acc) t := by
  rw [litBody] <;> simp [hu, hx]

theorem litBody_plain (c : Char) (acc t : Str) (h1 : c ≠ '"') (h2 : c ≠ '\\') :
    litBody .normal acc (c :: t) = litBody .normal (c :: acc) t := by
  rw [litBody] <;> simp [h1, h2]

theorem litBody_hex_close (n : Nat) (acc t : Str) : litBody (.hex n) acc ('}' :: t) = litBody .normal (Char.ofNat n :: acc) t := by
  rw [litBody]

theorem litBody_hex_digit (n d : Nat) (h : d < 16) (acc t : Str) :
    litBody (.hex n) acc (hexDigit d :: t) = litBody (.hex (n * 16 + d)) acc t := by
  obtain ⟨hv, hne, _⟩ := hexDigit_spec d h
  rw [litBody, hv]; simpa using hne

theorem litBody_hexOf : ∀ (f k : Nat), k < 16 ^ f → ∀ (acc t : Str), litBody (.hex 0) acc (hexOf f k ++ t) = litBody (.hex k) acc t
  | 0, k, h, _, _ => by rw [show k = 0 by simpa using h]; rfl
  | f + 1, k, h, acc, t => by
    rw [hexOf]
    split
    · rename_i h16; simpa using litBody_hex_digit 0 k h16 acc t
    · rw [List.append_assoc, litBody_hexOf f (k / 16) (Nat.div_lt_of_lt_mul (by rwa [Nat.pow_succ, Nat.mul_comm] at h)),
        List.singleton_append, litBody_hex_digit _ _ (Nat.mod_lt _ (by decide)), Nat.div_add_mod']

/-- the four forms in which `string_literal` writes one character `c`, for a table that escapes as the ASCII one does;
    both contracts of the table (`EscOk` here, `EscLex` for the comment lexer) are facts about these forms -/
inductive EscForm (c : Char) : Str → Prop where
  | simple (d : Char) : d ≠ 'u' → d ≠ 'x' → unescChar d = c → EscForm c ['\\', d]
  | nul : c = Char.ofNat 0 → EscForm c ['\\', 'x', '0', '0']
  | hex : c.toNat < 256 → EscForm c ('\\' :: 'u' :: '{' :: (hexOf 8 c.toNat ++ ['}']))
  | plain : c ≠ '"' → c ≠ '\\' → EscForm c [c]

theorem asciiEsc_form (c : Char) : EscForm c (jsEsc (asciiEscDebug c)) := by
  unfold asciiEscDebug
  -- `split` on the whole chain is dear (it abstracts the `if` under `jsEsc`); one `by_cases` per test is not
  by_cases h1 : c = '"'
  · subst h1; exact .simple '"' (by decide) (by decide) rfl
  rw [if_neg h1]
  by_cases h2 : c = '\\'
  · subst h2; exact .simple '\\' (by decide) (by decide) rfl
  rw [if_neg h2]
  by_cases h3 : c = '\n'
  · subst h3; exact .simple 'n' (by decide) (by decide) rfl
  rw [if_neg h3]
  by_cases h4 : c = '\r'
  · subst h4; exact .simple 'r' (by decide) (by decide) rfl
  rw [if_neg h4]
  by_cases h5 : c = '\t'
  · subst h5; exact .simple 't' (by decide) (by decide) rfl
  rw [if_neg h5]
  by_cases h6 : c.toNat = 0
  · rw [if_pos h6]; exact .nul (by rw [← Char.ofNat_toNat c, h6])
  rw [if_neg h6]
  by_cases h7 : (c.toNat < 32 || c.toNat = 127) = true
  · rw [if_pos h7]
    exact .hex (by simp only [Bool.or_eq_true, decide_eq_true_eq] at h7; omega)
  · rw [if_neg h7]
    have : jsEsc [c] = [c] := by simp [jsEsc]
    rw [this]; exact .plain h1 h2

theorem EscForm.ok {c : Char} {e : Str} (h : EscForm c e) (acc t : Str) :
    litBody .normal acc (e ++ t) = litBody .normal (c :: acc) t := by
  cases h with
  | simple d hu hx hd => rw [← hd]; exact litBody_esc d acc t hu hx
  | nul h0 => rw [h0]; exact litBody_x00 acc t
  | hex hk =>
    simp only [List.cons_append, List.append_assoc, List.nil_append]
    rw [litBody_u, litBody_hexOf _ _ (Nat.lt_of_lt_of_le hk (by decide)), litBody_hex_close, Char.ofNat_toNat]
  | plain h1 h2 => exact litBody_plain c acc t h1 h2

theorem litBody_quote (ops : CharOps) (hok : EscOk ops) : ∀ (s acc rest : Str),
    litBody .normal acc ((s.map fun c => jsEsc (ops.escDebug c)).flatten ++ '"' :: rest) = some ((s.reverse ++ acc).reverse, rest)
  | [], acc, rest => by simp [litBody_close]
  | c :: s, acc, rest => by
    simp only [List.map_cons, List.flatten_cons, List.append_assoc]
    rw [hok c acc, litBody_quote ops hok s (c :: acc) rest]
    simp

end TsRs
