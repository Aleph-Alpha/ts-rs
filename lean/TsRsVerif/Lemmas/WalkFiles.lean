import TsRsVerif.Lemmas.WalkSeq
import TsRsVerif.Lemmas.HistoryToMulti
/-!
# `export_all`, end to end: which files hold what afterwards

`export_recursive` is a sequence of `export_into` steps (`WalkSeq`); an `export_into` step is an `export_to` step with the spelling
`dir / output_path()`; a sequence of `export_to` steps into several files, repeats included, leaves in each file the canonical text
of what went there (`tmulti_repeats`). Composed here (`runInto_repeats`).
-/
namespace TsRs
open Export

/-- `export_into` is `export_to` at the spelling `dir / output_path()` (the second normalisation is the identity) -/
theorem exportInto_eq_exportTo (w : World) (t : TyInfo) (dir op : Str) (g : GenT)
    (ho : t.outputPath = some op) (ht : t.text = .ok (genText g)) (hi : t.ident = g.ident) :
    exportInto w t dir = exportTo w (tyOfGen g) (Path.join dir op) :=
  (exportInto_join w t dir op ho).trans (by simp only [exportTo, tyOfGen, ht, hi])

/-- the table entry of type `j`: output path, generated text, identifier, target file -/
structure TableOK (u : Universe) (slots : List TSlot) (dir : Str) (gen : Nat → GenT) (rel : Nat → Str) (slotOf : Nat → Nat) (j : Nat) : Prop where
  entry : ∃ t, u[j]? = some t ∧ t.outputPath = some (rel j) ∧ t.text = .ok (genText (gen j)) ∧ t.ident = (gen j).ident
  slot : slotOf j < slots.length

def opOf (dir : Str) (gen : Nat → GenT) (rel : Nat → Str) (slotOf : Nat → Nat) (j : Nat) : TOp := ((slotOf j, gen j), Path.join dir (rel j))

/-- the sequence of `export_into` steps is the sequence of `export_to` steps -/
theorem runInto_eq_runOpsTo (u : Universe) (slots : List TSlot) (dir : Str) (gen : Nat → GenT) (rel : Nat → Str) (slotOf : Nat → Nat) :
    ∀ (order : List Nat) (w : World), (∀ j ∈ order, TableOK u slots dir gen rel slotOf j) →
    runInto u dir w order = runOpsTo slots w (order.map (opOf dir gen rel slotOf))
  | [], w, _ => rfl
  | j :: rest, w, h => by
    obtain ⟨⟨t, hu, ho, ht, hi⟩, hs⟩ := h j (by simp)
    have hsl : slots[slotOf j]? = some slots[slotOf j] := List.getElem?_eq_getElem hs
    simp only [runInto, hu, List.map_cons, runOpsTo, opOf, hsl]
    rw [exportInto_eq_exportTo w t dir (rel j) (gen j) ho ht hi]
    cases hex : exportTo w (tyOfGen (gen j)) (Path.join dir (rel j)) with
    | mk w' o =>
      cases o with
      | ok => exact runInto_eq_runOpsTo u slots dir gen rel slotOf rest w' (fun k hk => h k (by simp [hk]))
      | err e => rfl
      | panic => rfl

theorem gensAt_map (order : List Nat) (slotOf : Nat → Nat) (gen : Nat → GenT) (i : Nat) :
    gensAt i (order.map fun j => (slotOf j, gen j)) = (order.filter fun j => slotOf j = i).map gen := by
  simp [gensAt, List.filter_map, Function.comp_def]

theorem gensAt_map_nodup (order : List Nat) (hnd : order.Nodup) (slotOf : Nat → Nat) (gen : Nat → GenT) (key : GenT → Str)
    (hinj : ∀ j ∈ order, ∀ j' ∈ order, slotOf j = slotOf j' → key (gen j) = key (gen j') → j = j') (i : Nat) :
    ((gensAt i (order.map fun j => (slotOf j, gen j))).map key).Nodup := by
  rw [gensAt_map, List.map_map]
  refine List.pairwise_map.mpr ((hnd.sublist List.filter_sublist).imp_of_mem fun hx hy hne e => hne ?_)
  have hx' := List.mem_filter.mp hx
  have hy' := List.mem_filter.mp hy
  exact hinj _ hx'.1 _ hy'.1 (by simp at hx' hy'; rw [hx'.2, hy'.2]) e

/-- the first occurrences of `os` that are not in `seen`, in order -/
def firstNew : List Nat → List Nat → List Nat
  | _, [] => []
  | seen, j :: os => if j ∈ seen then firstNew seen os else j :: firstNew (seen ++ [j]) os

theorem firstNew_mem (os seen : List Nat) (j : Nat) : j ∈ firstNew seen os ↔ j ∈ os ∧ j ∉ seen := by
  fun_induction firstNew seen os with
  | case1 => simp
  | case2 seen k os hk ih => rw [ih, List.mem_cons]; by_cases e : j = k <;> simp [e, hk]
  | case3 seen k os hk ih => rw [List.mem_cons, ih, List.mem_cons]; by_cases e : j = k <;> simp [e, hk]

theorem firstNew_nodup (os seen : List Nat) : (firstNew seen os).Nodup := by
  fun_induction firstNew seen os with
  | case1 => exact .nil
  | case2 _ _ _ _ ih => exact ih
  | case3 seen k os _ ih => exact List.nodup_cons.mpr ⟨fun h => ((firstNew_mem os (seen ++ [k]) k).mp h).2 (by simp), ih⟩

theorem firstNew_of_nodup (os seen : List Nat) (hnd : os.Nodup) (hd : ∀ j ∈ os, j ∉ seen) : firstNew seen os = os := by
  fun_induction firstNew seen os with
  | case1 => rfl
  | case2 _ k _ hk => exact absurd hk (hd k (by simp))
  | case3 seen k os _ ih =>
    obtain ⟨hk, hnd'⟩ := List.nodup_cons.mp hnd
    rw [ih hnd' fun j hj => by simpa using ⟨hd j (by simp [hj]), fun e => hk (e ▸ hj)⟩]

theorem dedup_table (dir : Str) (gen : Nat → GenT) (rel : Nat → Str) (slotOf : Nat → Nat) (os seen : List Nat) :
    Dedup (seen.map fun j => (slotOf j, gen j)) (os.map (opOf dir gen rel slotOf)) ((firstNew seen os).map fun j => (slotOf j, gen j)) := by
  fun_induction firstNew seen os with
  | case1 => exact .nil
  | case2 seen k os hk ih =>
    refine .rep ?_ ih
    show gen k ∈ gensAt (slotOf k) (seen.map fun j => (slotOf j, gen j))
    rw [gensAt_map]
    exact List.mem_map.mpr ⟨k, List.mem_filter.mpr ⟨hk, by simp⟩, rfl⟩
  | case3 seen k os hk ih => exact .new (by simpa [opOf] using ih)

/-- **a sequence of `export_into` steps over a table, repeats included**: every step returns `Ok`, and every file holds the canonical
text of the types (each once) that went there. The table is described on a set `S` of types that contains those of the sequence. -/
theorem runInto_repeats (u : Universe) (slots : List TSlot) (dir : Str) (gen : Nat → GenT) (rel : Nat → Str) (slotOf : Nat → Nat)
    (os : List Nat) (w : World) (S : Nat → Prop) (hS : ∀ j ∈ os, S j)
    (htab : ∀ j, S j → TableOK u slots dir gen rel slotOf j)
    (hs : TSlotsOK w.fs slots)
    (hsp : ∀ j, S j → ∀ s, slots[slotOf j]? = some s → Path.absolute (cwdStr w.fs) (Path.join dir (rel j)) = .ok s.path)
    (hgen : ∀ j, S j → GenOK (gen j))
    (hname : ∀ j j', S j → S j' → slotOf j = slotOf j' → (gen j).name = (gen j').name → j = j')
    (hident : ∀ j j', S j → S j' → slotOf j = slotOf j' → (gen j).ident = (gen j').ident → j = j')
    (hp : w.poisoned = false) (hreg : ∀ s ∈ slots, regGet w.reg (regKey s.path) = none) :
    ∃ w', runInto u dir w os = (w', true) ∧ TInv w.fs slots ((firstNew [] os).map fun j => (slotOf j, gen j)) w' := by
  rw [runInto_eq_runOpsTo u slots dir gen rel slotOf os w fun j hj => htab j (hS j hj)]
  have hN : ∀ j ∈ firstNew [] os, S j := fun j hj => hS j ((firstNew_mem os [] j).mp hj).1
  simpa using tmulti_repeats w.fs slots hs (dedup_table dir gen rel slotOf os []) w
    (tinv_init slots w hs hp hreg)
    (List.forall_mem_map.mpr fun j hj => (htab j (hS j hj)).slot)
    (List.forall_mem_map.mpr fun j hj => hsp j (hS j hj))
    (by
      -- the new steps are a duplicate-free list of table entries, per file with distinct names and identifiers
      simpa using opsGensOK_of (ops := (firstNew [] os).map fun j => (slotOf j, gen j))
        (List.forall_mem_map.mpr fun j hj => hgen j (hN j hj))
        (gensAt_map_nodup _ (firstNew_nodup os []) slotOf gen (·.name) fun j hj j' hj' => hname j j' (hN j hj) (hN j' hj'))
        (gensAt_map_nodup _ (firstNew_nodup os []) slotOf gen (·.ident) fun j hj j' hj' => hident j j' (hN j hj) (hN j' hj')))

/-- **a sequence of `export_into` steps over a table**: every step returns `Ok` and every file holds what went there -/
theorem runInto_files (u : Universe) (slots : List TSlot) (dir : Str) (gen : Nat → GenT) (rel : Nat → Str) (slotOf : Nat → Nat)
    (order : List Nat) (hnd : order.Nodup) (w : World)
    (htab : ∀ j ∈ order, TableOK u slots dir gen rel slotOf j)
    (hs : TSlotsOK w.fs slots)
    (hsp : ∀ j ∈ order, ∀ s, slots[slotOf j]? = some s → Path.absolute (cwdStr w.fs) (Path.join dir (rel j)) = .ok s.path)
    (hgen : ∀ j ∈ order, GenOK (gen j))
    (hname : ∀ j ∈ order, ∀ j' ∈ order, slotOf j = slotOf j' → (gen j).name = (gen j').name → j = j')
    (hident : ∀ j ∈ order, ∀ j' ∈ order, slotOf j = slotOf j' → (gen j).ident = (gen j').ident → j = j')
    (hp : w.poisoned = false) (hreg : ∀ s ∈ slots, regGet w.reg (regKey s.path) = none) :
    ∃ w', runInto u dir w order = (w', true) ∧ TInv w.fs slots (order.map fun j => (slotOf j, gen j)) w' := by
  have := runInto_repeats u slots dir gen rel slotOf order w (· ∈ order) (fun _ h => h) htab hs hsp hgen
    (fun j j' hj hj' => hname j hj j' hj') (fun j j' hj hj' => hident j hj j' hj') hp hreg
  rwa [firstNew_of_nodup order [] hnd (by simp)] at this

end TsRs
