/-!
`"abc".toList` is cheap to run and dear to prove with: a `String` is an array of UTF-8 bytes, so the kernel reaches the
characters only by decoding them, at about a million heartbeats per character it then compares. To the kernel a literal is
`String.ofList ['a', 'b', 'c']`, and core's `String.toList_ofList` gives the list at once.
-/

/-- replaces every `"..".toList` of the goal by its list of characters; to be called before `decide` evaluates a test vector -/
macro "lit_chars" : tactic => `(tactic| repeat rw [String.toList_ofList])
