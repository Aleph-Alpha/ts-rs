import TsRsVerif.Model.Ts
/-!
Induction over `Member` with ONE motive. The four list-level judgments of the mutual family only say "every element / every
pair / every declared property / every entry is a member"; so a predicate on (type, value) pairs is lifted to them pointwise
(`AllP`, `ZipP`, `FieldsP`, `MapP`), and the recursor of the family becomes an induction principle with a single motive whose
list cases are proved here once (`Member.hered`: for the elements one has the membership and the motive). A key of a map is a
member of the key type as a string or as the integer it spells (`KeyP`), so the motive reaches the keys too.
-/
namespace TsRs.Ts

variable {D : Decls} (P : Ts → JVal → Prop)

def AllP (t : Ts) (js : List JVal) : Prop := ∀ j ∈ js, P t j

def ZipP : List Ts → List JVal → Prop
  | [], [] => True
  | t :: ts, j :: js => P t j ∧ ZipP ts js
  | _, _ => False

def FieldsP (fs : List (TsKey × Ts)) (kvs : List (Str × JVal)) : Prop :=
  ∀ p ∈ fs, (∃ v, JVal.lookup p.1.name kvs = some v ∧ P p.2 v) ∨ (JVal.lookup p.1.name kvs = none ∧ p.1.optional = true)

def KeyP (k : Ts) (key : Str) : Prop := P k (.str key) ∨ ∃ i : Int, (toString i).toList = key ∧ P k (.int i)

def MapP (k v : Ts) (kvs : List (Str × JVal)) : Prop := ∀ p ∈ kvs, KeyP P k p.1 ∧ P v p.2

variable {P}

theorem ZipP.imp {Q : Ts → JVal → Prop} (h : ∀ t j, P t j → Q t j) : ∀ {ts : List Ts} {js : List JVal}, ZipP P ts js → ZipP Q ts js
  | [], [], _ => trivial
  | [], _ :: _, hz => hz.elim
  | _ :: _, [], hz => hz.elim
  | _ :: _, _ :: _, hz => ⟨h _ _ hz.1, ZipP.imp h hz.2⟩

theorem FieldsP.imp {Q : Ts → JVal → Prop} (h : ∀ t j, P t j → Q t j) {fs : List (TsKey × Ts)} {kvs : List (Str × JVal)}
    (hf : FieldsP P fs kvs) : FieldsP Q fs kvs :=
  fun p hp => (hf p hp).imp (fun ⟨v, hl, hv⟩ => ⟨v, hl, h _ _ hv⟩) id

theorem KeyP.imp {Q : Ts → JVal → Prop} {k k' : Ts} {key : Str} (h : ∀ j, P k j → Q k' j) : KeyP P k key → KeyP Q k' key :=
  Or.imp (h _) fun ⟨i, e, hi⟩ => ⟨i, e, h _ hi⟩

theorem MapP.imp {Q : Ts → JVal → Prop} {k k' v v' : Ts} {kvs : List (Str × JVal)} (hk : ∀ j, P k j → Q k' j) (hv : ∀ j, P v j → Q v' j)
    (h : MapP P k v kvs) : MapP Q k' v' kvs :=
  fun p hp => ⟨(h p hp).1.imp hk, hv _ (h p hp).2⟩

theorem Member.hered
    (numberInt : ∀ i, P .number (.int i)) (numberFloat : ∀ r, P .number (.float r)) (bigint : ∀ i, P .bigint (.int i))
    (string : ∀ s, P .string (.str s)) (boolean : ∀ b, P .boolean (.bool b)) (null : P .null .null) (lit : ∀ s, P (.lit s) (.str s))
    (ref : ∀ {n args ps body j}, lookupDecl D n = some (ps, body) → Member D (subst (ps.zip args) body) j →
      P (subst (ps.zip args) body) j → P (.ref n args) j)
    (array : ∀ {t js}, AllP (fun t j => Member D t j ∧ P t j) t js → P (.array t) (.arr js))
    (tuple : ∀ {ts js}, ZipP (fun t j => Member D t j ∧ P t j) ts js → P (.tuple ts) (.arr js))
    (neverArray : P .neverArray (.arr [])) (emptyRecord : P .emptyRecord (.obj []))
    (obj : ∀ {fs kvs}, FieldsP (fun t j => Member D t j ∧ P t j) fs kvs → (∀ k ∈ JVal.keys kvs, ∃ f ∈ fs, f.1.name = k) → P (.obj fs) (.obj kvs))
    (mapped : ∀ {k v kvs}, MapP (fun t j => Member D t j ∧ P t j) k v kvs → P (.mapped k v) (.obj kvs))
    (union : ∀ {ts t j}, t ∈ ts → Member D t j → P t j → P (.union ts) j)
    (interNil : ∀ {j}, P (.inter []) j)
    (interObj : ∀ {t ts kvs kvs₁ kvs₂}, List.Perm (kvs₁ ++ kvs₂) kvs → Member D t (.obj kvs₁) → Member D (.inter ts) (.obj kvs₂) → ts ≠ [] →
      P t (.obj kvs₁) → P (.inter ts) (.obj kvs₂) → P (.inter (t :: ts)) (.obj kvs))
    (interOne : ∀ {t j}, Member D t j → P t j → P (.inter [t]) j)
    (interVal : ∀ {t ts j}, j.isObj = false → Member D t j → Member D (.inter ts) j → P t j → P (.inter ts) j → P (.inter (t :: ts)) j)
    (paren : ∀ {t j}, Member D t j → P t j → P (.paren t) j)
    {t : Ts} {j : JVal} (m : Member D t j) : P t j := by
  refine Member.rec (motive_1 := fun t j _ => P t j) (motive_2 := fun t js _ => AllP (fun t j => Member D t j ∧ P t j) t js)
    (motive_3 := fun ts js _ => ZipP (fun t j => Member D t j ∧ P t j) ts js)
    (motive_4 := fun fs kvs _ => FieldsP (fun t j => Member D t j ∧ P t j) fs kvs)
    (motive_5 := fun k v kvs _ => MapP (fun t j => Member D t j ∧ P t j) k v kvs)
    numberInt numberFloat bigint string boolean null lit ref (fun _ h => array h) (fun _ h => tuple h) neverArray emptyRecord
    (fun _ hk h => obj h hk) (fun _ h => mapped h) union interNil interObj interOne interVal paren
    ?_ ?_ ?_ ?_ ?_ ?_ ?_ ?_ ?_ ?_ m
  · exact nofun
  · exact fun m _ h ih => List.forall_mem_cons.2 ⟨⟨m, h⟩, ih⟩
  · trivial
  · exact fun m _ h ih => ⟨⟨m, h⟩, ih⟩
  · exact nofun
  · exact fun hl m _ h ih => List.forall_mem_cons.2 ⟨.inl ⟨_, hl, m, h⟩, ih⟩
  · exact fun hl ho _ ih => List.forall_mem_cons.2 ⟨.inr ⟨hl, ho⟩, ih⟩
  · exact nofun
  · exact fun mk mv _ hk h ih => List.forall_mem_cons.2 ⟨⟨.inl ⟨mk, hk⟩, mv, h⟩, ih⟩
  · exact fun i he mk mv _ hk h ih => List.forall_mem_cons.2 ⟨⟨.inr ⟨i, he, mk, hk⟩, mv, h⟩, ih⟩

/-! The list-level judgments are the pointwise liftings of `Member`. The recursion is on the list, with the judgment inverted inside:
equations that match on the derivation are compiled as a recursion over the inductive predicate, which is much slower to check. -/

theorem memberAll_iff {t : Ts} : ∀ {js : List JVal}, MemberAll D t js ↔ AllP (Member D) t js
  | [] => ⟨fun _ _ h => (nomatch h), fun _ => .nil⟩
  | _ :: _ =>
    ⟨fun | .cons h hs => List.forall_mem_cons.2 ⟨h, memberAll_iff.1 hs⟩,
     fun h => have h := List.forall_mem_cons.1 h; .cons h.1 (memberAll_iff.2 h.2)⟩

theorem memberZip_iff : ∀ {ts : List Ts} {js : List JVal}, MemberZip D ts js ↔ ZipP (Member D) ts js
  | [], [] => ⟨fun _ => trivial, fun _ => .nil⟩
  | [], _ :: _ => ⟨fun h => (nomatch h), fun h => h.elim⟩
  | _ :: _, [] => ⟨fun h => (nomatch h), fun h => h.elim⟩
  | _ :: _, _ :: _ => ⟨fun | .cons h hs => ⟨h, memberZip_iff.1 hs⟩, fun h => .cons h.1 (memberZip_iff.2 h.2)⟩

theorem memberFields_iff {kvs : List (Str × JVal)} : ∀ {fs : List (TsKey × Ts)}, MemberFields D fs kvs ↔ FieldsP (Member D) fs kvs
  | [] => ⟨fun _ _ h => (nomatch h), fun _ => .nil⟩
  | (_, _) :: _ =>
    ⟨fun
      | .present hl hm hs => List.forall_mem_cons.2 ⟨.inl ⟨_, hl, hm⟩, memberFields_iff.1 hs⟩
      | .absent hl ho hs => List.forall_mem_cons.2 ⟨.inr ⟨hl, ho⟩, memberFields_iff.1 hs⟩,
     fun h => by
      obtain ⟨⟨v, hl, hm⟩ | ⟨hl, ho⟩, h2⟩ := List.forall_mem_cons.1 h
      · exact .present hl hm (memberFields_iff.2 h2)
      · exact .absent hl ho (memberFields_iff.2 h2)⟩

theorem memberMap_iff {k v : Ts} : ∀ {kvs : List (Str × JVal)}, MemberMap D k v kvs ↔ MapP (Member D) k v kvs
  | [] => ⟨fun _ _ h => (nomatch h), fun _ => .nil⟩
  | (_, _) :: _ =>
    ⟨fun
      | .consStr hk hv hs => List.forall_mem_cons.2 ⟨⟨.inl hk, hv⟩, memberMap_iff.1 hs⟩
      | .consInt i he hk hv hs => List.forall_mem_cons.2 ⟨⟨.inr ⟨i, he, hk⟩, hv⟩, memberMap_iff.1 hs⟩,
     fun h => by
      obtain ⟨⟨hk | ⟨i, he, hk⟩, hv⟩, h2⟩ := List.forall_mem_cons.1 h
      · exact .consStr hk hv (memberMap_iff.2 h2)
      · exact .consInt i he hk hv (memberMap_iff.2 h2)⟩

theorem MemberAll.allP {t : Ts} {js : List JVal} (h : MemberAll D t js) : AllP (Member D) t js := memberAll_iff.1 h
theorem MemberZip.zipP {ts : List Ts} {js : List JVal} (h : MemberZip D ts js) : ZipP (Member D) ts js := memberZip_iff.1 h
theorem MemberFields.fieldsP {fs : List (TsKey × Ts)} {kvs : List (Str × JVal)} (h : MemberFields D fs kvs) :
    FieldsP (Member D) fs kvs := memberFields_iff.1 h
theorem MemberAll.imp {D' : Decls} {t t' : Ts} {js : List JVal} (h : MemberAll D t js)
    (himp : ∀ j, Member D t j → Member D' t' j) : MemberAll D' t' js :=
  memberAll_iff.2 fun j hj => himp j (h.allP j hj)

theorem zipP_iff_zip {P : Ts → JVal → Prop} : ∀ {ts : List Ts} {js : List JVal},
    ZipP P ts js ↔ ts.length = js.length ∧ ∀ p ∈ ts.zip js, P p.1 p.2
  | [], [] => ⟨fun _ => ⟨rfl, fun _ h => (nomatch h)⟩, fun _ => trivial⟩
  | [], _ :: _ => ⟨fun h => h.elim, fun h => (nomatch h.1)⟩
  | _ :: _, [] => ⟨fun h => h.elim, fun h => (nomatch h.1)⟩
  | _ :: _, _ :: _ =>
    ⟨fun h => have ih := zipP_iff_zip.1 h.2; ⟨congrArg (· + 1) ih.1, List.forall_mem_cons.2 ⟨h.1, ih.2⟩⟩,
     fun ⟨hl, h⟩ => have h := List.forall_mem_cons.1 h; ⟨h.1, zipP_iff_zip.2 ⟨Nat.succ.inj hl, h.2⟩⟩⟩

end TsRs.Ts
