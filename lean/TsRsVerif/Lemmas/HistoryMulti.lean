import TsRsVerif.Lemmas.HistoryWorld
/-!
# Histories over several files

Exports into several files, interleaved in any way: every step returns `Ok`, and in the end every location holds the
canonical file of the exports that went to it, everything else is as it was. The final directory therefore depends only
on WHAT was exported where, not on the order (`minv_same_perm`).

Files are given as `slots`: (path, location) pairs — the normalised path every entry point uses for the file
(`C06_key_normal_form`) and the location it resolves to. An operation is (slot index, generated text).
-/
namespace TsRs
open Fs Export

/-- a file: the path handed to `export_and_merge` and the location it resolves to -/
abbrev Slot := Str × Loc
/-- one export: the index of the file and the generated text -/
abbrev Op := Nat × GenT

/-- the exports that went to slot `i`, in order -/
def gensAt (i : Nat) (ops : List Op) : List GenT := (ops.filter (·.1 = i)).map (·.2)

theorem gensAt_append (i : Nat) (a b : List Op) : gensAt i (a ++ b) = gensAt i a ++ gensAt i b := by
  simp [gensAt, List.filter_append]

theorem gensAt_snoc (i : Nat) (ops : List Op) (op : Op) :
    gensAt i (ops ++ [op]) = if op.1 = i then gensAt i ops ++ [op.2] else gensAt i ops := by
  rw [gensAt_append]
  by_cases h : op.1 = i <;> simp [gensAt, h]

theorem gensAt_nil_of_snoc {i : Nat} {ops : List Op} {op : Op} (h : gensAt i (ops ++ [op]) = []) : gensAt i ops = [] ∧ op.1 ≠ i := by
  rw [gensAt_snoc] at h
  split at h
  · simp at h
  · exact ⟨h, ‹_›⟩

theorem mem_gensAt (i : Nat) (ops : List Op) (x : GenT) (h : x ∈ gensAt i ops) : ∃ op ∈ ops, op.2 = x := by
  obtain ⟨op, hop, rfl⟩ := List.mem_map.mp h
  exact ⟨op, (List.mem_filter.mp hop).1, rfl⟩

theorem gensAt_perm (i : Nat) {a b : List Op} (h : a.Perm b) : (gensAt i a).Perm (gensAt i b) :=
  (h.filter _).map _

theorem gensAt_nil_perm (i : Nat) {a b : List Op} (h : a.Perm b) : gensAt i a = [] ↔ gensAt i b = [] :=
  ⟨fun e => (e ▸ gensAt_perm i h).symm.eq_nil, fun e => (e ▸ gensAt_perm i h).eq_nil⟩

def OpsGensOK (ops : List Op) : Prop := ∀ i, GensOK (gensAt i ops)

theorem opsGensOK_of {ops : List Op} (hg : ∀ op ∈ ops, GenOK op.2) (hnm : ∀ i, ((gensAt i ops).map (·.name)).Nodup)
    (hid : ∀ i, ((gensAt i ops).map (·.ident)).Nodup) : OpsGensOK ops :=
  fun i => ⟨fun x hx => by obtain ⟨op, hop, rfl⟩ := mem_gensAt i ops x hx; exact hg op hop, hnm i, hid i⟩

theorem OpsGensOK.left {a b : List Op} (h : OpsGensOK (a ++ b)) : OpsGensOK a :=
  fun i => (gensAt_append i a b ▸ h i).left

theorem OpsGensOK.perm {a b : List Op} (hp : a.Perm b) (h : OpsGensOK a) : OpsGensOK b :=
  fun i => (h i).perm (gensAt_perm i hp)

theorem OpsGensOK.last {done : List Op} {op : Op} (h : OpsGensOK (done ++ [op])) : GensOK (gensAt op.1 done ++ [op.2]) := by
  simpa [gensAt_snoc] using h op.1

/-- **one export into one of several files**, whatever describes the files (`P`: path, `L`: location), as long as different
files have different locations and registry keys: afterwards every file is in the state of `done ++ [op]` -/
theorem fileAt_step {σ : Type} (P : σ → Str) (L : σ → Loc) (slots : List σ)
    (hlocs : ∀ (i j : Nat) (a b : σ), slots[i]? = some a → slots[j]? = some b → L a = L b → i = j)
    (hkeys : ∀ (i j : Nat) (a b : σ), slots[i]? = some a → slots[j]? = some b → regKey (P a) = regKey (P b) → i = j)
    (done : List Op) (op : Op) (w : World) (s : σ) (hsl : slots[op.1]? = some s) (hl : L s ≠ [])
    (hat : ∀ (i : Nat) t, slots[i]? = some t → FileAt (P t) (L t) (gensAt i done) w) :
    ∀ (i : Nat) t, slots[i]? = some t → FileAt (P t) (L t) (gensAt i (done ++ [op]))
      { w with fs := w.fs.set (L s) (.file (fileText (canonSt (gensAt op.1 done ++ [op.2])))),
               reg := regInsert w.reg (regKey (P s)) op.2.ident } := by
  intro i t ht
  rw [gensAt_snoc]
  by_cases hi : op.1 = i
  · subst hi
    cases Option.some.inj (hsl.symm.trans ht)
    simp only [if_true]
    exact (hat _ _ hsl).step hl op.2
  · simp only [hi, if_false]
    exact (hat i t ht).frame (lookup_set_ne _ _ fun e => hi (hlocs _ _ _ _ hsl ht e.symm))
      (regGet_regInsert_ne _ _ _ _ fun e => hi (hkeys _ _ _ _ hsl ht e.symm))

/-- the operations in order through `export_and_merge` at the slot's path; `true` = every one returned `Ok` -/
def runOps (slots : List Slot) : World → List Op → World × Bool
  | w, [] => (w, true)
  | w, op :: ops =>
    match slots[op.1]? with
    | none => (w, false)
    | some s =>
      match exportGen w s.1 op.2 with
      | (w', .ok) => runOps slots w' ops
      | (w', _) => (w', false)

/-- the files: every path resolves (in the initial file system) to its location, the location can hold a file, different
slots are different files with different registry keys -/
structure SlotsOK (fs0 : Fs) (slots : List Slot) : Prop where
  resolves : ∀ s ∈ slots, fs0.resolve s.1 = some s.2
  nonroot : ∀ s ∈ slots, s.2 ≠ []
  parent : ∀ s ∈ slots, fs0.isDir s.2.dropLast = true
  notdir : ∀ s ∈ slots, fs0.lookup s.2 ≠ some .dir
  locs : ∀ (i j : Nat) (a b : Slot), slots[i]? = some a → slots[j]? = some b → a.2 = b.2 → i = j
  keys : ∀ (i j : Nat) (a b : Slot), slots[i]? = some a → slots[j]? = some b → regKey a.1 = regKey b.1 → i = j

/-- after the operations `done`: every slot that received exports holds the canonical text of ITS exports and is registered with their identifiers,
every other location looks up as in `fs0` (directories included) -/
structure MInv (fs0 : Fs) (slots : List Slot) (done : List Op) (w : World) : Prop where
  alive : w.poisoned = false
  cwd : w.fs.cwd = fs0.cwd
  dirs : ∀ l, w.fs.isDir l = fs0.isDir l
  untouched : ∀ l, (∀ (i : Nat) s, slots[i]? = some s → s.2 = l → gensAt i done = []) → w.fs.lookup l = fs0.lookup l
  files : ∀ (i : Nat) s, slots[i]? = some s → gensAt i done ≠ [] → w.fs.lookup s.2 = some (.file (fileText (canonSt (gensAt i done))))
  regNone : ∀ (i : Nat) s, slots[i]? = some s → gensAt i done = [] → regGet w.reg (regKey s.1) = none
  regSome : ∀ (i : Nat) s, slots[i]? = some s → gensAt i done ≠ [] →
    ∃ names, regGet w.reg (regKey s.1) = some names ∧ ∀ n, n ∈ names ↔ n ∈ (gensAt i done).map (·.ident)

/-- the operations are well-formed: indices in range, texts in the domain, per file distinct identifiers and declared names -/
structure OpsOK (slots : List Slot) (ops : List Op) : Prop where
  inRange : ∀ op ∈ ops, op.1 < slots.length
  genOK : ∀ op ∈ ops, GenOK op.2
  names : ∀ i, ((gensAt i ops).map (·.name)).Nodup
  idents : ∀ i, ((gensAt i ops).map (·.ident)).Nodup

theorem minv_step (fs0 : Fs) (slots : List Slot) (hs : SlotsOK fs0 slots) (done : List Op) (op : Op) (w : World)
    (hinv : MInv fs0 slots done w) (s : Slot) (hsl : slots[op.1]? = some s) (hok : OpsGensOK (done ++ [op])) :
    ∃ w', exportGen w s.1 op.2 = (w', .ok) ∧ MInv fs0 slots (done ++ [op]) w' := by
  have hmem : s ∈ slots := List.mem_of_getElem? hsl
  have hl := hs.nonroot s hmem
  have hat : ∀ (i : Nat) t, slots[i]? = some t → FileAt t.1 t.2 (gensAt i done) w :=
    fun i t ht => ⟨hinv.regNone i t ht, hinv.files i t ht, hinv.regSome i t ht⟩
  have hnd : w.fs.lookup s.2 ≠ some .dir := by
    by_cases hemp : gensAt op.1 done = []
    · rw [hinv.untouched s.2 fun i t ht e => by rw [hs.locs i op.1 t s ht hsl e]; exact hemp]
      exact hs.notdir s hmem
    · exact (hat _ _ hsl).notdir hemp
  refine ⟨_, exportGen_step w s.1 s.2 (gensAt op.1 done) op.2 hinv.alive
    ⟨by rw [resolve_congr w.fs fs0 hinv.cwd hinv.dirs]; exact hs.resolves s hmem, hl, by rw [hinv.dirs]; exact hs.parent s hmem, hnd⟩
    (hat _ _ hsl) hok.last, ?_⟩
  have hat' := fileAt_step Prod.fst Prod.snd slots hs.locs hs.keys done op w s hsl hl hat
  refine ⟨hinv.alive, hinv.cwd, fun l => by rw [← hinv.dirs l]; exact isDir_set_file _ _ _ hnd l, fun l hun => ?_,
    fun i t ht => (hat' i t ht).file, fun i t ht => (hat' i t ht).regNone, fun i t ht => (hat' i t ht).regSome⟩
  have hne : l ≠ s.2 := fun e => by simpa [gensAt_snoc] using hun op.1 s hsl e.symm
  exact (lookup_set_ne _ _ hne).trans (hinv.untouched l fun i t ht e => (gensAt_nil_of_snoc (hun i t ht e)).1)

theorem multi_aux (fs0 : Fs) (slots : List Slot) (hs : SlotsOK fs0 slots) (ops done : List Op) (w : World)
    (h : MInv fs0 slots done w) (hr : ∀ op ∈ ops, op.1 < slots.length) (hok : OpsGensOK (done ++ ops)) :
    ∃ w', runOps slots w ops = (w', true) ∧ MInv fs0 slots (done ++ ops) w' := by
  induction ops generalizing done w with
  | nil => exact ⟨w, rfl, by rwa [List.append_nil]⟩
  | cons op ops ih =>
    have hr0 := hr op List.mem_cons_self
    have hsl : slots[op.1]? = some slots[op.1] := List.getElem?_eq_getElem hr0
    rw [List.append_cons] at hok ⊢
    obtain ⟨w1, h1, hinv1⟩ := minv_step fs0 slots hs done op w h _ hsl hok.left
    obtain ⟨w2, h2, hinv2⟩ := ih (done ++ [op]) w1 hinv1 (fun o ho => hr o (List.mem_cons_of_mem _ ho)) hok
    exact ⟨w2, by simp only [runOps, hsl, h1, h2], hinv2⟩

theorem multi_history (slots : List Slot) (w : World) (ops : List Op) (hs : SlotsOK w.fs slots) (hok : OpsOK slots ops)
    (hp : w.poisoned = false) (hreg : ∀ s ∈ slots, regGet w.reg (regKey s.1) = none) :
    ∃ w', runOps slots w ops = (w', true) ∧ MInv w.fs slots ops w' := by
  have h0 : MInv w.fs slots [] w :=
    ⟨hp, rfl, fun _ => rfl, fun _ _ => rfl, fun _ _ _ h => absurd rfl h, fun _ s hs' _ => hreg s (List.mem_of_getElem? hs'),
     fun _ _ _ h => absurd rfl h⟩
  simpa using multi_aux w.fs slots hs ops [] w h0 hok.inRange (opsGensOK_of hok.genOK hok.names hok.idents)

/-- the invariant determines every location, up to the order of the history -/
theorem minv_same_perm (fs0 : Fs) (slots : List Slot) (d₁ d₂ : List Op) (hp : d₁.Perm d₂)
    (hnames : ∀ i, ((gensAt i d₁).map (·.name)).Nodup) (w₁ w₂ : World)
    (h₁ : MInv fs0 slots d₁ w₁) (h₂ : MInv fs0 slots d₂ w₂) (l : Loc) : w₁.fs.lookup l = w₂.fs.lookup l := by
  by_cases hex : ∃ (i : Nat) (s : Slot), slots[i]? = some s ∧ s.2 = l ∧ gensAt i d₁ ≠ []
  · obtain ⟨i, s, hsl, rfl, hne⟩ := hex
    rw [h₁.files i s hsl hne, h₂.files i s hsl (fun e => hne ((gensAt_nil_perm i hp).mpr e)),
      canonSt_perm _ _ (gensAt_perm i hp) (hnames i)]
  · have hun : ∀ (i : Nat) s, slots[i]? = some s → s.2 = l → gensAt i d₁ = [] :=
      fun i s hsl hl => Classical.byContradiction fun h => hex ⟨i, s, hsl, hl, h⟩
    rw [h₁.untouched l hun, h₂.untouched l fun i s hsl hl => (gensAt_nil_perm i hp).mp (hun i s hsl hl)]

theorem opsOK_perm (slots : List Slot) {a b : List Op} (h : a.Perm b) (hok : OpsOK slots a) : OpsOK slots b :=
  have g := (opsGensOK_of hok.genOK hok.names hok.idents).perm h
  ⟨fun op hop => hok.inRange op (h.mem_iff.mpr hop), fun op hop => hok.genOK op (h.mem_iff.mpr hop), fun i => (g i).names,
   fun i => (g i).idents⟩

end TsRs
