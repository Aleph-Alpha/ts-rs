/-! Facts about `List` that mention nothing of the model. -/
namespace TsRs

theorem find?_key_eq_some_iff {α κ : Type} [DecidableEq κ] {key : α → κ} {k : κ} {x : α} : ∀ {l : List α}, (l.map key).Nodup →
    (l.find? (fun y => key y = k) = some x ↔ x ∈ l ∧ key x = k)
  | [], _ => by simp
  | y :: ys, hnd => by
    rw [List.map_cons, List.nodup_cons] at hnd
    rw [List.find?_cons, List.mem_cons]
    by_cases hy : key y = k
    · have : x ∈ ys → key x ≠ k := fun hx e => hnd.1 (List.mem_map.mpr ⟨x, hx, e.trans hy.symm⟩)
      simp only [hy, decide_true, Option.some.injEq]
      exact ⟨fun e => ⟨.inl e.symm, e ▸ hy⟩, fun h => h.1.elim Eq.symm fun hx => absurd h.2 (this hx)⟩
    · simp only [hy, decide_false, find?_key_eq_some_iff hnd.2]
      exact ⟨fun h => ⟨.inr h.1, h.2⟩, fun h => ⟨h.1.resolve_left fun e => hy (e ▸ h.2), h.2⟩⟩

theorem find?_perm {α κ : Type} [DecidableEq κ] (key : α → κ) {l l' : List α} (hp : l.Perm l') (hnd : (l.map key).Nodup) (k : κ) :
    l.find? (fun y => key y = k) = l'.find? (fun y => key y = k) :=
  Option.ext fun x => by
    rw [find?_key_eq_some_iff hnd, find?_key_eq_some_iff ((hp.map key).nodup_iff.mp hnd), hp.mem_iff]

theorem find?_filterMap_key {α κ : Type} [DecidableEq κ] (f : κ → Option (κ × α)) (hf : ∀ k' kv, f k' = some kv → kv.1 = k') (k : κ) :
    ∀ keys : List κ, (keys.filterMap f).find? (·.1 = k) = if k ∈ keys then f k else none
  | [] => rfl
  | k' :: ks => by
    have ih := find?_filterMap_key f hf k ks
    by_cases hk : k' = k
    · subst hk
      cases h : f k' with
      | none => simp [h, ih]
      | some kv => simp [h, hf _ _ h]
    · have hk' : ¬ k = k' := fun e => hk e.symm
      cases h : f k' with
      | none => simp [h, ih, hk']
      | some kv => simp [h, ih, hk', hf _ _ h, hk]

theorem mapM_map_eq_some {α β γ : Type} {g : α → β} {f : β → Option γ} {r : α → γ} :
    ∀ {l : List α}, (∀ x ∈ l, f (g x) = some (r x)) → (l.map g).mapM f = some (l.map r)
  | [], _ => rfl
  | x :: xs, h => by
    have ih := mapM_map_eq_some fun y hy => h y (List.mem_cons_of_mem x hy)
    simp only [List.map_cons, List.mapM_cons, h x List.mem_cons_self, ih, bind, Option.bind, pure]

theorem flatten_of_append {α : Type} {P : List α → Prop} (hnil : P []) (happ : ∀ {a b}, P a → P b → P (a ++ b)) :
    ∀ (xs : List (List α)), (∀ x ∈ xs, P x) → P xs.flatten
  | [], _ => hnil
  | x :: xs, h => by
    rw [List.flatten_cons]
    exact happ (h x (by simp)) (flatten_of_append hnil happ xs (fun y hy => h y (by simp [hy])))

theorem flatten_map_sublist {α β : Type} (g : α → List β) {l₁ l₂ : List α} (h : l₁.Sublist l₂) :
    (l₁.map g).flatten.Sublist (l₂.map g).flatten := by
  induction h with
  | slnil => exact .slnil
  | cons a _ ih => exact ih.trans (List.sublist_append_right (g a) _)
  | cons_cons a _ ih => exact (List.Sublist.refl (g a)).append ih

theorem suffix_of_not_mem {α : Type} {pat q t : List α} {c : α} (hc : c ∉ pat) (h : pat <:+ q ++ c :: t) : pat <:+ t := by
  rcases List.suffix_or_suffix_of_suffix h (List.suffix_append q (c :: t)) with h1 | h1
  · rcases List.suffix_cons_iff.mp h1 with rfl | h2
    · exact absurd List.mem_cons_self hc
    · exact h2
  · exact absurd (h1.mem List.mem_cons_self) hc

theorem eq_of_nodup_map {α β : Type} {f : α → β} {l : List α} {x y : α} (hnd : (l.map f).Nodup) (hx : x ∈ l) (hy : y ∈ l)
    (e : f x = f y) : x = y :=
  have p : l.Pairwise fun a b => f a ≠ f b := List.pairwise_map.1 hnd
  List.Pairwise.forall_of_forall_of_flip (R := fun a b => f a = f b → a = b) (fun _ _ _ => rfl)
    (p.imp fun h e => absurd e h) (p.imp fun h e => absurd e.symm h) hx hy e

theorem find_filter_ne {α β} [DecidableEq α] (l : List (α × β)) (k k' : α) (h : k' ≠ k) :
    (l.filter (fun x => decide (x.1 ≠ k))).find? (fun x => decide (x.1 = k')) = l.find? (fun x => decide (x.1 = k')) := by
  rw [List.find?_filter]
  congr 1
  funext x
  by_cases hx : x.1 = k'
  · simp [hx, h]
  · simp [hx]

end TsRs
