import TsRsVerif.Lemmas.TreeBasics
import TsRsVerif.Lemmas.BuiltinLemmas
/-! End-to-end soundness of the tree-level derive against the serde model, for the core fragment.

Induction on the fuel of `Serde.serItem` (`Sound cfg env m`: everything written with fuel `m` inhabits the declared reference).
One step (`item_step`) goes item → variant → body → fields; types of fields are handled by C12's induction
(`serB_sound`), with the induction hypothesis as the callback for user types. -/
namespace TsRs
open Ts Builtin Tree

def Sound (cfg : Cfg) (env : Env) (m : Nat) : Prop :=
  ∀ id args v j it targs, env.find id = some it → nameTyBL cfg.limit (nameN env) args = some targs →
    Serde.serItem cfg env m id args v = some j → cleanV v = true →
    Member (declsOf cfg env) (.ref (Derive.tsName it) targs) j

theorem serTy_sound (htab : TableOK) (cfg : Cfg) (env : Env) (n : Nat) (hS : ∀ m, m < n → Sound cfg env m)
    (f : Nat) (hf : f ≤ n) (t : RTy) (v : RVal) (j : JVal) (T : Ts)
    (hs : Serde.serTy cfg env f t v = some j) (hc : cleanV v = true) (hT : tyTs cfg env t = some T) :
    Member (declsOf cfg env) T j := by
  cases f with
  | zero => cases hs
  | succ f' =>
    simp only [Serde.serTy] at hs
    refine serB_sound _ cfg.limit (nameN env) _ htab (fun id args targs v j T hargs hN hs hc => ?_) t v T j hT hs hc
    obtain ⟨it, hfind, _, rfl⟩ := nameN_eq_some.1 hN
    exact hS f' (by omega) id args v j it targs hfind hargs hs hc

/-- values of field types under a substitution of the item's parameters: `σ` on the Rust side, `σ'` (the names of the same
arguments) on the TypeScript side -/
def TySound (cfg : Cfg) (env : Env) (n : Nat) (σ : List (Str × RTy)) (σ' : List (Str × Ts)) : Prop :=
  ∀ f, f ≤ n → ∀ (t : RTy) (v : RVal) (j : JVal) (T : Ts), Serde.serTy cfg env f (RTy.subst σ t) v = some j → cleanV v = true →
    tyTs cfg env t = some T → Member (declsOf cfg env) (Ts.subst σ' T) j

theorem tySound_of (htab : TableOK) (cfg : Cfg) (env : Env) (n : Nat) (hS : ∀ m, m < n → Sound cfg env m)
    (names : List Str) (args : List RTy) (targs : List Ts) (hargs : nameTyBL cfg.limit (nameN env) args = some targs) :
    TySound cfg env n (names.zip args) (names.zip targs) := by
  intro f hf t v j T hs hc hT
  have hT' := name_subst cfg.limit (nameN env) (nameN_commutes env) names args targs hargs t T hT
  exact serTy_sound htab cfg env n hS f hf _ v j _ hs hc hT'

theorem serTy_option_some (cfg : Cfg) (env : Env) (f : Nat) (t : RTy) (v : RVal) (j : JVal)
    (hs : Serde.serTy cfg env f (.option t) v = some j) (hn : Serde.isNoneVal v = false) :
    ∃ x, v = .some x ∧ Serde.serTy cfg env f t x = some j := by
  cases f with
  | zero => cases hs
  | succ f' =>
    simp only [Serde.serTy] at hs ⊢
    rcases serB_option_inv hs with ⟨rfl, _⟩ | h
    · cases hn
    · exact h

theorem serTuple_length (cfg : Cfg) (env : Env) (σ : List (Str × RTy)) : ∀ (f : Nat) (fields : List Field) (vals : List RVal) (js : List JVal),
    Serde.serTuple cfg env f σ fields vals = some js → fields.length = vals.length
  | 0, _, _ | _ + 1, [], _ :: _ | _ + 1, _ :: _, [] => fun _ hs => nomatch hs
  | _ + 1, [], [] => fun _ _ => rfl
  | f + 1, fld :: flds, v :: vs => fun js hs => by
    obtain ⟨rest, hr, -⟩ := Option.bind_eq_some_iff.mp (show (Serde.serTuple cfg env f σ flds vs).bind _ = some js from hs)
    rw [List.length_cons, List.length_cons, serTuple_length cfg env σ f flds vs rest hr]

theorem serVariant_kept {cfg : Cfg} {env : Env} {f : Nat} {it : Item} {σ : List (Str × RTy)} {var : Variant} {vals : List RVal} {j : JVal}
    (h : Serde.serVariant cfg env f it σ var vals = some j) : var.attr.skip = false := by
  cases f with
  | zero => cases h
  | succ f =>
    cases hsk : var.attr.skip with
    | false => rfl
    | true => simp [Serde.serVariant, hsk] at h

section
variable {cfg : Cfg} {env : Env} {n : Nat} {σ : List (Str × RTy)} {σ' : List (Str × Ts)} (hty : TySound cfg env n σ σ')
include hty

theorem field_sound {ra : Option Rule} {of : Opt} {fld : Field} {f : Nat} (hf : f ≤ n) {v : RVal} {j : JVal} {T : Ts}
    (hok : FieldOkN cfg ra of fld) (hnone : (fld.attr.skipSerIfNone && Serde.isNoneVal v) = false)
    (hj : Serde.serTy cfg env f (RTy.subst σ fld.ty) v = some j) (hcv : cleanV v = true) (ht : tyTs cfg env (fieldTy of fld) = some T) :
    Member (declsOf cfg env) (Ts.subst σ' T) j := by
  rcases fieldTy_cases of fld with e | ⟨u, hu, e, h1, h2⟩ <;> rw [e] at ht
  · exact hty f hf fld.ty v j T hj hcv ht
  · -- `name?: T` without `| null`: serde has to leave `None` out, so the value is `Some x`
    rw [hok.noNull.resolve_left (fun h => by rw [h h1] at h2; cases h2), Bool.true_and] at hnone
    rw [hu, RTy.subst] at hj
    obtain ⟨x, rfl, hjx⟩ := serTy_option_some cfg env f _ v j hj hnone
    exact hty f hf u x j T hjx hcv ht

/-- the premises of `member_obj_intro` for the object serde writes -/
theorem serNamed_sound (ra : Option Rule) (of : Opt) :
    ∀ (f : Nat) (fields : List Field) (vals : List RVal), f ≤ n → ∀ (kvs : List (Str × JVal)) (fs : List (TsKey × Ts)),
    Serde.serNamed cfg env f σ ra fields vals = some kvs → cleanVL vals = true →
    fields.all (fieldOkN cfg ra of) = true → keepM (·.attr.skip) (fieldTs cfg env ra of) fields = some fs →
    fs.map (·.1.name) = keysOf cfg ra fields
      ∧ (∀ kv ∈ kvs, ∃ p ∈ fs, p.1.name = kv.1 ∧ Member (declsOf cfg env) (Ts.subst σ' p.2) kv.2)
      ∧ (∀ p ∈ fs, p.1.optional = true ∨ p.1.name ∈ kvs.map (·.1))
  | 0, _, _ | _ + 1, [], _ :: _ | _ + 1, _ :: _, [] => fun _ _ _ hs => nomatch hs
  | _ + 1, [], [] => fun _ kvs fs hs _ _ hT => by cases hT; cases hs; simp [keysOf]
  | f + 1, fld :: flds, v :: vs => fun hf kvs fs hs hc hok hT => by
    obtain ⟨hcv, hcvs⟩ := cleanVL_cons hc
    obtain ⟨hfo, hrest⟩ := Bool.and_eq_true_iff.mp (List.all_cons ▸ hok)
    obtain ⟨rest, hr, hs⟩ := Option.bind_eq_some_iff.1 (show (Serde.serNamed cfg env f σ ra flds vs).bind _ = some kvs from hs)
    obtain ⟨rfs, hrt, hT⟩ := keepM_cons.1 hT
    obtain ⟨ihk, ihkv, ihreq⟩ := serNamed_sound ra of f flds vs (by omega) rest rfs hr hcvs hrest hrt
    cases hskip : fld.attr.skip with
    | true =>
      simp only [hskip, ↓reduceIte, pure, Option.some.injEq] at hs hT
      subst hs; subst hT
      exact ⟨by simpa [keysOf, hskip] using ihk, ihkv, ihreq⟩
    | false =>
      simp only [hskip, Bool.false_eq_true, ↓reduceIte] at hs hT
      obtain ⟨p, hp, rfl⟩ := hT
      obtain ⟨T, ht, rfl⟩ := Option.map_eq_some_iff.1 hp
      have hfo := (fieldOkN_iff hskip).mp hfo
      have hk := hfo.key
      refine ⟨by simpa [keysOf, hskip, hk] using ihk, ?_⟩
      have ihkv' : ∀ kv ∈ rest, ∃ p ∈ (({ name := Tree.fieldKey cfg ra fld, optional := (optMode of fld).1 }, T) :: rfs : List (TsKey × Ts)),
          p.1.name = kv.1 ∧ Member (declsOf cfg env) (Ts.subst σ' p.2) kv.2 := fun kv h =>
        let ⟨p, hp, h⟩ := ihkv kv h; ⟨p, List.mem_cons_of_mem _ hp, h⟩
      cases hnone : (fld.attr.skipSerIfNone && Serde.isNoneVal v) with
      | true =>
        -- serde leaves the property out; it is written `name?:`
        simp only [hnone, ↓reduceIte, pure, Option.some.injEq] at hs
        subst hs
        exact ⟨ihkv', List.forall_mem_cons.2 ⟨.inl (hfo.omitted.resolve_left (by simp [(Bool.and_eq_true_iff.mp hnone).1])), ihreq⟩⟩
      | false =>
        simp only [hnone, Bool.false_eq_true, ↓reduceIte] at hs
        obtain ⟨j, hj, hs⟩ := Option.bind_eq_some_iff.1 hs
        simp only [hfo.flatten, Bool.false_eq_true, ↓reduceIte, pure, Option.some.injEq] at hs
        subst hs
        refine ⟨List.forall_mem_cons.2 ⟨⟨_, List.mem_cons_self .., hk, field_sound hty (by omega) hfo hnone hj hcv ht⟩, ihkv'⟩,
          List.forall_mem_cons.2 ⟨.inr (by simp [hk]), fun p hp => (ihreq p hp).imp_right (List.mem_map.2 ∘ ?_ ∘ List.mem_map.1)⟩⟩
        exact fun ⟨kv, h1, h2⟩ => ⟨kv, List.mem_cons_of_mem _ h1, h2⟩

theorem serTuple_sound :
    ∀ (f : Nat) (fields : List Field) (vals : List RVal), f ≤ n → ∀ (js : List JVal) (ts : List Ts),
    Serde.serTuple cfg env f σ fields vals = some js → cleanVL vals = true →
    keepM (·.attr.skip) (fun fld => tyTs cfg env fld.ty) fields = some ts →
    MemberZip (declsOf cfg env) (Ts.substList σ' ts) js
  | 0, _, _ | _ + 1, [], _ :: _ | _ + 1, _ :: _, [] => fun _ _ _ hs => nomatch hs
  | _ + 1, [], [] => fun _ js ts hs _ hT => by cases hT; cases hs; exact MemberZip.nil
  | f + 1, fld :: flds, v :: vs => fun hf js ts hs hc hT => by
    obtain ⟨hcv, hcvs⟩ := cleanVL_cons hc
    obtain ⟨rest, hr, hs⟩ := Option.bind_eq_some_iff.1 (show (Serde.serTuple cfg env f σ flds vs).bind _ = some js from hs)
    obtain ⟨rts, hrt, hT⟩ := keepM_cons.1 hT
    have ih := serTuple_sound f flds vs (by omega) rest rts hr hcvs hrt
    cases hskip : fld.attr.skip with
    | true =>
      simp only [hskip, ↓reduceIte, pure, Option.some.injEq] at hs hT
      subst hs; subst hT
      exact ih
    | false =>
      simp only [hskip, Bool.false_eq_true, ↓reduceIte] at hs hT
      obtain ⟨j, hj, hs⟩ := Option.bind_eq_some_iff.1 hs
      obtain ⟨T, ht, rfl⟩ := hT
      cases hs
      exact MemberZip.cons (hty f (by omega) fld.ty v j T hj hcv ht) ih

theorem named_sound {ra : Option Rule} {of : Opt} {f : Nat} (hf : f ≤ n) {fields : List Field} {vals : List RVal} {kvs : List (Str × JVal)}
    {fs : List (TsKey × Ts)} (hs : Serde.serNamed cfg env f σ ra fields vals = some kvs) (hc : cleanVL vals = true)
    (hok : fields.all (fieldOkN cfg ra of) = true) (hfs : fieldsTs cfg env ra of fields = some fs) (tag : Option Str) (name : Str)
    (hnd : (tag.toList ++ keysOf cfg ra fields).Nodup) :
    Member (declsOf cfg env) (Ts.subst σ' (.obj ((tag.toList.map fun t => ({ name := t }, .lit name)) ++ fs)))
      (.obj ((tag.toList.map fun t => (t, .str name)) ++ kvs)) := by
  obtain ⟨hnames, hkv, hreq⟩ := serNamed_sound hty ra of f fields vals hf kvs fs hs hc hok (fieldsTs_eq .. ▸ hfs)
  have hnm : (Ts.substFields σ' fs).map (·.1.name) = keysOf cfg ra fields := by
    rw [substFields_map, List.map_map, ← hnames]; rfl
  have hobj : Member (declsOf cfg env) (.obj (Ts.substFields σ' fs)) (.obj kvs) := by
    refine member_obj_intro (by rw [hnm]; exact (List.nodup_append.1 hnd).2.1) (fun kv h => ?_) (fun p h => ?_)
    · obtain ⟨p, hp, hn, hm⟩ := hkv kv h
      exact ⟨(p.1, Ts.subst σ' p.2), by rw [substFields_map]; exact List.mem_map_of_mem hp, hn, hm⟩
    · rw [substFields_map] at h
      obtain ⟨p, hp, rfl⟩ := List.mem_map.1 h
      exact hreq p hp
  cases tag with
  | none => simpa only [Ts.subst, Option.toList, List.map, List.nil_append] using hobj
  | some t =>
    simp only [Ts.subst, Ts.substFields, Option.toList, List.map, List.singleton_append]
    exact member_obj_cons (by rw [hnm]; exact fun h => (List.nodup_append.1 hnd).2.2 t (by simp) _ h rfl) (.lit name) hobj

/-- serde's `rename_all` (`raS`) only matters for named fields -/
theorem structBody_sound (f : Nat) (hf : f ≤ n) (ra raS : Option Rule) (of : Opt) (tag : Option Str) (name : Str) (shape : Shape) (fields : List Field)
    (vals : List RVal) (j : JVal) (T : Ts)
    (hs : Serde.serStructBody cfg env f σ raS tag name shape fields vals = some j) (hc : cleanVL vals = true)
    (hra : shape = .named → raS = ra) (hok : bodyOk cfg ra of tag shape fields = true)
    (hnt : shape = .tuple → ∀ fld, fields = [fld] → fld.attr.skip = false)
    (hT : structBody cfg env ra of (tag.map fun t => (t, name)) shape fields = some T) :
    Member (declsOf cfg env) (Ts.subst σ' T) j := by
  cases f with
  | zero => cases hs
  | succ f' =>
    rcases structBody_eq_some.mp hT with ⟨fld, rfl, rfl, hT'⟩ | hB
    · -- a newtype is transparent on both sides
      simp only [hnt rfl fld rfl, Bool.false_eq_true, if_false] at hT'
      match vals, hs with
      | [v], hs => exact hty f' (by omega) fld.ty v j T hs (cleanVL_cons hc).1 hT'
      | [], hs | _ :: _ :: _, hs =>
        obtain ⟨js, hr, _⟩ := Option.bind_eq_some_iff.mp (show (Serde.serTuple cfg env f' σ [fld] _).bind _ = some j from hs)
        have := serTuple_length cfg env σ f' [fld] _ js hr
        simp at this
    · cases hB with
      | unit => cases hs; exact Member.null
      | empty ht =>
        cases tag <;> cases ht
        obtain ⟨kvs, hk, hs⟩ := Option.bind_eq_some_iff.mp (show (Serde.serNamed cfg env f' σ raS [] vals).bind _ = some j from hs)
        cases hs
        match f', vals, hk with
        | _ + 1, [], hk => cases hk; exact Member.emptyRecord
      | named _ hfs =>
        cases hra rfl
        obtain ⟨kvs, hk, hs⟩ := Option.bind_eq_some_iff.mp (show (Serde.serNamed cfg env f' σ ra fields vals).bind _ = some j from hs)
        simp only [bodyOk, beq_self_eq_true, if_true, Bool.and_eq_true, bne_self_eq_false, Bool.false_or, decide_eq_true_eq] at hok
        have := named_sound hty (Nat.le_of_succ_le hf) hk hc hok.1 hfs tag name hok.2
        cases hs
        cases tag <;> exact this
      | never =>
        obtain ⟨js, hr, hs⟩ := Option.bind_eq_some_iff.mp (show (Serde.serTuple cfg env f' σ [] vals).bind _ = some j from hs)
        cases hs
        match f', vals, hr with
        | _ + 1, [], hr => cases hr; exact Member.neverArray
      | tuple hts =>
        obtain ⟨js, hr, hs⟩ := Option.bind_eq_some_iff.mp (show (Serde.serTuple cfg env f' σ _ vals).bind _ = some j from hs)
        cases hs
        simp only [Ts.subst]
        exact Member.tuple (serTuple_sound hty f' _ vals (by omega) js _ hr hc (tupleTs_eq .. ▸ hts))

theorem variant_sound (f : Nat) (hf : f ≤ n) (it : Item) (var : Variant) (vals : List RVal) (j : JVal) (T : Ts)
    (hs : Serde.serVariant cfg env f it σ var vals = some j) (hc : cleanVL vals = true)
    (hok : variantOk cfg it var = true) (hT : variantTs cfg env it var = some T) :
    Member (declsOf cfg env) (Ts.subst σ' T) j := by
  cases f with
  | zero => cases hs
  | succ f' =>
    simp only [variantOk, Bool.and_eq_true, beq_iff_eq, Bool.or_eq_true, bne_iff_ne, ne_eq] at hok
    obtain ⟨⟨_, hname⟩, hra, hbok⟩ := hok
    simp only [Serde.serVariant, serVariant_kept hs, Bool.false_eq_true, if_false, ← hname] at hs
    -- the body of a variant that is not unit-like, with the tag of an internally tagged one
    have hbody : ∀ (tag : Option Str) (c : JVal) (B : Ts),
        Serde.serStructBody cfg env f' σ (Serde.renameAllS it var) tag (Derive.variantTsName cfg it.attr.renameAll var) var.shape var.fields vals = some c →
        bodyOk cfg (renameAllT it var) .no tag var.shape var.fields = true → var.unitLike = false →
        structBody cfg env (renameAllT it var) .no (tag.map fun t => (t, Derive.variantTsName cfg it.attr.renameAll var)) var.shape var.fields = some B →
        Member (declsOf cfg env) (Ts.subst σ' B) c := by
      exact fun tag c B h1 h2 hul h3 => structBody_sound hty f' (by omega) _ _ .no tag _ var.shape var.fields vals c B h1 hc
        (fun hs => (hra.resolve_left (not_not_intro hs)).symm) h2 (fun hs _ => newtype_kept hul hs) h3
    rcases variantTs_eq_some.mp hT with ⟨hun, hB⟩ | ⟨hun, hV⟩
    · simp only [tg_untagged hun] at hs hbok
      cases hu : var.unitLike with
      | true =>
        rw [structBody_unitLike cfg env _ var hu] at hB
        simp only [hu, if_true] at hs
        cases hs; cases hB; exact .null
      | false => exact hbody none j T (by simpa only [hu, Bool.false_eq_true, if_false] using hs) hbok hu hB
    · simp only [(Bool.or_eq_false_iff.mp hun).1, Bool.false_eq_true, if_false] at hs hbok
      cases hV with
      | extUnit htg hu => simp only [htg, hu, if_true] at hs; cases hs; exact .lit _
      | ext htg hu hC =>
        simp only [htg, hu, Bool.false_eq_true, if_false] at hs hbok
        obtain ⟨c, hcnt, rfl⟩ := Option.map_eq_some_iff.1 hs
        simp only [Ts.subst, Ts.substFields]
        exact member_obj_one (hbody none c _ hcnt hbok hu hC)
      | adjUnit htg hu => simp only [htg, hu, if_true] at hs; cases hs; simp only [Ts.subst, Ts.substFields]; exact member_obj_one (.lit _)
      | adj htg hu hC =>
        simp only [htg, hu, Bool.false_eq_true, if_false, Bool.and_eq_true] at hs hbok
        obtain ⟨c, hcnt, rfl⟩ := Option.map_eq_some_iff.1 hs
        simp only [Ts.subst, Ts.substFields]
        exact member_obj_cons (by simpa using hbok.1) (.lit _) (member_obj_one (hbody none c _ hcnt hbok.2 hu hC))
      | intUnit htg hu => simp only [htg, hu, if_true] at hs; cases hs; simp only [Ts.subst, Ts.substFields]; exact member_obj_one (.lit _)
      | @int t _ htg hu hsh hfs =>
        simp only [htg, hu, hsh, Bool.false_eq_true, if_false, Bool.and_eq_true] at hs hbok
        exact hbody (some t) j _ (by rw [hsh]; exact hs) (by rw [hsh]; exact hbok.2) hu
          (by rw [hsh]; exact structBody_eq_some.mpr (.inr (.named (fun _ => Option.some_ne_none _) hfs)))
end

theorem item_step (htab : TableOK) (cfg : Cfg) (env : Env) (hF : fragB cfg env = true) (n : Nat) (hS : ∀ m, m < n → Sound cfg env m) :
    Sound cfg env n := by
  intro id args v j it targs hfind hargs hs hc
  have hmem : it ∈ env := List.mem_of_find?_eq_some hfind
  obtain ⟨hvok, hst, htsnames, body, hb⟩ := fragB_item hF hmem
  refine Member.ref (lookup_decl_in cfg env env it body htsnames hmem hb) ?_
  have hty := tySound_of htab cfg env n hS (it.generics.map (·.name)) args targs hargs
  cases n with
  | zero => cases hs
  | succ f =>
    simp only [Serde.serItem, hfind, zip_map_names] at hs
    rw [itemBody_eq_some] at hb
    cases hen : it.isEnum with
    | true =>
      simp only [hen, if_true] at hs hb
      obtain ⟨arms, harms, rfl⟩ := hb
      cases v with
      | variant idx vals =>
        cases hvar : it.variants[idx]? with
        | none => simp [hvar] at hs
        | some var =>
          simp only [hvar] at hs
          have hvmem : var ∈ it.variants := List.mem_of_getElem? hvar
          obtain ⟨Tv, hTv, hin⟩ := keepM_defined (variantsTs_eq .. ▸ harms) var hvmem (serVariant_kept hs)
          rw [if_neg fun h => by rw [List.isEmpty_iff.mp h] at hin; cases hin]
          simp only [Ts.subst, substList_eq_map]
          exact Member.union (List.mem_map_of_mem hin)
            (variant_sound hty f (by omega) it var vals j Tv hs (by simpa [cleanV] using hc) (hvok hen var hvmem) hTv)
      | _ => simp at hs
    | false =>
      simp only [hen, Bool.false_eq_true, if_false] at hs hb
      cases v with
      | strukt vals =>
        exact structBody_sound hty f (by omega) _ _ _ _ _ it.shape it.fields vals j body hs (by simpa [cleanV] using hc) (fun _ => rfl) (hst hen).1 (hst hen).2 hb
      | _ => simp at hs

/-- **every serialization of a user type is sound**, at every fuel -/
theorem all_sound (htab : TableOK) (cfg : Cfg) (env : Env) (hF : fragB cfg env = true) (m : Nat) : Sound cfg env m :=
  Nat.strongRecOn m fun k ih => item_step htab cfg env hF k ih

end TsRs
