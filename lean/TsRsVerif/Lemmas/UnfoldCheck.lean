import TsRsVerif.Lemmas.UnfoldSound
import TsRsVerif.Model.TsNorm
/-! An executable test for `Unf` / `DeclsUnf` (run by the driver on the tree-level declarations of a program without its
`inline` flags against the parsed REAL declarations of the program with them), and its soundness. -/
namespace TsRs
open Ts

theorem tsKey_eq {k k' : TsKey} (h1 : k.name = k'.name) (h2 : k.optional = k'.optional) : k = k' := by
  cases k; cases k'; simp_all
/-- one case for each row of `Ts.beq`, `beqL`, `beqF`, in their order -/
theorem beq_all :
    (∀ a b : Ts, Ts.beq a b = true → a = b) ∧ (∀ a b : List (TsKey × Ts), Ts.beqF a b = true → a = b) ∧
    (∀ a b : List Ts, Ts.beqL a b = true → a = b) := by
  apply Ts.beq.mutual_induct
    (motive_1 := fun a b => Ts.beq a b = true → a = b) (motive_2 := fun a b => Ts.beqF a b = true → a = b)
    (motive_3 := fun a b => Ts.beqL a b = true → a = b)
  iterate 8 exact fun _ => rfl
  iterate 3 (intro a b h; simp only [Ts.beq, beq_iff_eq] at h; rw [h])
  · intro a as b bs ih h
    simp only [Ts.beq, Bool.and_eq_true, beq_iff_eq] at h
    rw [h.1, ih h.2]
  iterate 6 (intro a b ih h; simp only [Ts.beq] at h; rw [ih h])
  · intro a b c d ih1 ih2 h
    simp only [Ts.beq, Bool.and_eq_true] at h
    rw [ih1 h.1, ih2 h.2]
  · intros; rename_i h; rw [Ts.beq] at h; cases h; all_goals assumption
  · exact fun _ => rfl
  · intro a as b bs ih1 ih2 h
    simp only [Ts.beqL, Bool.and_eq_true] at h
    rw [ih1 h.1, ih2 h.2]
  · intros; rename_i h; rw [Ts.beqL] at h; cases h; all_goals assumption
  · exact fun _ => rfl
  · intro k a as k' b bs ih1 ih2 h
    simp only [Ts.beqF, Bool.and_eq_true, beq_iff_eq] at h
    rw [tsKey_eq h.1.1.1 h.1.1.2, ih1 h.1.2, ih2 h.2]
  · intros; rename_i h; rw [Ts.beqF] at h; cases h; all_goals assumption

theorem beq_eq : ∀ (a b : Ts), Ts.beq a b = true → a = b := beq_all.1
theorem beqL_eq : ∀ (a b : List Ts), Ts.beqL a b = true → a = b := beq_all.2.2
theorem beqF_eq : ∀ (a b : List (TsKey × Ts)), Ts.beqF a b = true → a = b := beq_all.2.1

/-- unfold the head of `t` until it is a union -/
def headUnionB (D : Decls) : Nat → Ts → Option (List Ts)
  | 0, _ => none
  | f + 1, t =>
    match t with
    | .union xs => some xs
    | .ref n args =>
      match lookupDecl D n with
      | some (ps, b) => if ps.length = args.length then headUnionB D f (subst (ps.zip args) b) else none
      | none => none
    | _ => none

mutual
def unfB (D : Decls) : Nat → Ts → Ts → Bool
  | 0, _, _ => false
  | f + 1, t, t' =>
    congB D f t t'
    || (match t' with | .paren x => congB D f t x | _ => false)
    || (match t with
        | .ref n args =>
          match lookupDecl D n with
          | some (ps, b) => ps.length = args.length && unfB D f (subst (ps.zip args) b) t'
          | none => false
        | .union [x] => unfB D f x t'
        | _ => false)
def congB (D : Decls) : Nat → Ts → Ts → Bool
  | 0, _, _ => false
  | f + 1, t, t' =>
    match t, t' with
    | .ref n a, .ref n' a' => n == n' && Ts.beqL a a'
    | .array a, .array b => unfB D f a b
    | .tuple a, .tuple b => unfLB D f a b
    | .obj a, .obj b => unfFB D f a b
    | .mapped k v, .mapped k' v' => unfB D f k k' && unfB D f v v'
    | .union a, .union b => armsB D f a b
    | .inter a, .inter b => unfLB D f a b
    | .paren a, .paren b => unfB D f a b
    | a, b => isLeaf a && Ts.beq a b
def unfLB (D : Decls) : Nat → List Ts → List Ts → Bool
  | 0, _, _ => false
  | _ + 1, [], [] => true
  | f + 1, a :: as, b :: bs => unfB D f a b && unfLB D f as bs
  | _ + 1, _, _ => false
def unfFB (D : Decls) : Nat → List (TsKey × Ts) → List (TsKey × Ts) → Bool
  | 0, _, _ => false
  | _ + 1, [], [] => true
  | f + 1, (k, a) :: as, (k', b) :: bs => k.name == k'.name && k.optional == k'.optional && unfB D f a b && unfFB D f as bs
  | _ + 1, _, _ => false
def armsB (D : Decls) : Nat → List Ts → List Ts → Bool
  | 0, _, _ => false
  | _ + 1, [], out => out.isEmpty
  | f + 1, t :: ts, out =>
    (match out with
     | o :: out' => unfB D f t o && armsB D f ts out'
     | [] => false)
    || (match headUnionB D f t with
        | some xs => (List.range (out.length + 1)).any fun k => armsB D f xs (out.take k) && armsB D f ts (out.drop k)
        | none => false)
end

theorem headUnionB_sound (D : Decls) : ∀ (f : Nat) (t : Ts) (xs : List Ts), headUnionB D f t = some xs → HeadUnf D t (.union xs)
  | 0, _, _, h => nomatch h
  | f + 1, t, xs, h => by
    unfold headUnionB at h
    split at h
    · cases h; exact .refl _
    · split at h
      · next hl =>
        split at h
        · next hlen => exact .step hl hlen (headUnionB_sound D f _ xs h)
        · cases h
      · cases h
    · cases h

mutual
theorem unfB_sound (D : Decls) : ∀ (f : Nat) (t t' : Ts), unfB D f t t' = true → Unf D t t'
  | 0, _, _, h => nomatch h
  | f + 1, t, t', h => by
    -- the three alternatives of `unfB`: congruence, congruence below a parenthesis, one step at the head
    simp only [unfB, Bool.or_eq_true] at h
    rcases h with (h | h) | h
    · exact (congB_sound D f t t' h).unf
    · split at h
      · exact .mk (.refl _) (.paren (congB_sound D f t _ h))
      · cases h
    · split at h
      · split at h
        · next hl =>
          rw [Bool.and_eq_true, decide_eq_true_eq] at h
          obtain ⟨hh, p⟩ := unfB_sound D f _ t' h.2
          exact .mk (.step hl h.1 hh) p
        · cases h
      · obtain ⟨hh, p⟩ := unfB_sound D f _ t' h
        exact .mk (.single hh) p
      · cases h
theorem congB_sound (D : Decls) : ∀ (f : Nat) (t t' : Ts), congB D f t t' = true → UnfC D t t'
  | 0, _, _, h => nomatch h
  | f + 1, t, t', h => by
    unfold congB at h
    split at h
    · simp only [Bool.and_eq_true, beq_iff_eq] at h
      rw [h.1, beqL_eq _ _ h.2]; exact .refSame _ _
    · exact .array (unfB_sound D f _ _ h)
    · exact .tuple (unfLB_sound D f _ _ h)
    · exact .obj (unfFB_sound D f _ _ h)
    · simp only [Bool.and_eq_true] at h
      exact .mapped (unfB_sound D f _ _ h.1) (unfB_sound D f _ _ h.2)
    · exact .union (armsB_sound D f _ _ h)
    · exact .inter (unfLB_sound D f _ _ h)
    · exact .parenC (unfB_sound D f _ _ h)
    · simp only [Bool.and_eq_true] at h
      rw [← beq_eq _ _ h.2]; exact .leaf h.1
theorem unfLB_sound (D : Decls) : ∀ (f : Nat) (a b : List Ts), unfLB D f a b = true → UnfL D a b
  | 0, _, _, h => nomatch h
  | _ + 1, [], [], _ => .nil
  | f + 1, a :: as, b :: bs, h => by
    simp only [unfLB, Bool.and_eq_true] at h
    exact .cons (unfB_sound D f a b h.1) (unfLB_sound D f as bs h.2)
  | _ + 1, [], _ :: _, h => nomatch h
  | _ + 1, _ :: _, [], h => nomatch h
theorem unfFB_sound (D : Decls) : ∀ (f : Nat) (a b : List (TsKey × Ts)), unfFB D f a b = true → UnfF D a b
  | 0, _, _, h => nomatch h
  | _ + 1, [], [], _ => .nil
  | f + 1, (k, a) :: as, (k', b) :: bs, h => by
    simp only [unfFB, Bool.and_eq_true, beq_iff_eq] at h
    obtain ⟨⟨⟨h1, h2⟩, h3⟩, h4⟩ := h
    cases tsKey_eq h1 h2
    exact .cons (unfB_sound D f a b h3) (unfFB_sound D f as bs h4)
  | _ + 1, [], _ :: _, h => nomatch h
  | _ + 1, _ :: _, [], h => nomatch h
theorem armsB_sound (D : Decls) : ∀ (f : Nat) (ts out : List Ts), armsB D f ts out = true → UnfArms D ts out
  | 0, _, _, h => nomatch h
  | _ + 1, [], out, h => by
    simp only [armsB, List.isEmpty_iff] at h
    subst h; exact .nil
  | f + 1, t :: ts, out, h => by
    simp only [armsB, Bool.or_eq_true] at h
    rcases h with h | h
    · cases out with
      | nil => simp at h
      | cons o out' =>
        simp only [Bool.and_eq_true] at h
        exact .one (unfB_sound D f t o h.1) (armsB_sound D f ts out' h.2)
    · cases hu : headUnionB D f t with
      | none => simp [hu] at h
      | some xs =>
        simp only [hu, List.any_eq_true, Bool.and_eq_true] at h
        obtain ⟨k, _, h2, h3⟩ := h
        have e : out = out.take k ++ out.drop k := (List.take_append_drop _ _).symm
        rw [e]
        exact .splice (headUnionB_sound D f t xs hu) (armsB_sound D f _ _ h2) (armsB_sound D f ts _ h3)
end

def declsUnfB (D : Decls) (fuel : Nat) : Decls → Decls → Bool
  | [], [] => true
  | (n, ps, b) :: r, (n', ps', b') :: r' => n == n' && ps == ps' && unfB D fuel b b' && declsUnfB D fuel r r'
  | _, _ => false

theorem declsUnfB_lookup (D : Decls) (fuel : Nat) : ∀ (E E' : Decls), declsUnfB D fuel E E' = true → ∀ n,
    (lookupDecl E n = none ∧ lookupDecl E' n = none) ∨
      ∃ ps b b', lookupDecl E n = some (ps, b) ∧ lookupDecl E' n = some (ps, b') ∧ Unf D b b'
  | [], [], _, _ => .inl ⟨rfl, rfl⟩
  | (n0, ps0, b0) :: r, (n0', ps0', b0') :: r', h, n => by
    simp only [declsUnfB, Bool.and_eq_true, beq_iff_eq] at h
    obtain ⟨⟨⟨rfl, rfl⟩, hb⟩, hr⟩ := h
    rw [lookupDecl_cons, lookupDecl_cons]
    by_cases e : n0 = n
    · rw [if_pos e, if_pos e]; exact .inr ⟨ps0, b0, b0', rfl, rfl, unfB_sound D fuel _ _ hb⟩
    · rw [if_neg e, if_neg e]; exact declsUnfB_lookup D fuel r r' hr n
  | [], _ :: _, h, _ => nomatch h
  | _ :: _, [], h, _ => nomatch h

theorem declsUnfB_sound (D D' : Decls) (fuel : Nat) (h : declsUnfB D fuel D D' = true) : DeclsUnf D D' := by
  constructor <;> intro n ps b hl <;> rcases declsUnfB_lookup D fuel D D' h n with ⟨h1, h2⟩ | ⟨ps', b1, b2, h1, h2, u⟩
  · rw [h1] at hl; cases hl
  · rw [h1] at hl; cases hl; exact ⟨b2, h2, u⟩
  · rw [h2] at hl; cases hl
  · rw [h2] at hl; cases hl; exact ⟨b1, h1, u⟩

def wsdB (D : Decls) : Bool := D.all fun e => closedIn e.2.1 e.2.2

theorem wsdB_sound (D : Decls) (h : wsdB D = true) : WSD D := by
  intro e he
  exact (List.all_eq_true.mp h) e he

end TsRs
