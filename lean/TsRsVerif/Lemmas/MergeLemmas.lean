import TsRsVerif.Model.Merge
import TsRsVerif.Lemmas.Upsert
/-! The insertion loop of `merge` and name-sorted block lists. -/
namespace TsRs.Merge
open TsRs.Text

/-- strictly name-sorted list of (name, declaration) -/
def SortedN (l : List (Str × Str)) : Prop := l.Pairwise fun a b => ltStr a.1 b.1 = true

/-- fold of `insertByName` from the empty file -/
def insertAll (gens : List (Str × Str)) : List (Str × Str) :=
  gens.foldl (fun bs g => insertByName g.1 g.2 bs) []

theorem insertLoop_true (n d : Str) (ds : List (Str × Str)) :
    insertLoop n d true ds = ds.map (·.2) := by
  induction ds with
  | nil => rfl
  | cons x xs ih => cases x; simp [insertLoop, ih]

theorem loop_is_sorted_insert (n d : Str) (ds : List (Str × Str)) (hn : ∀ x ∈ ds, x.1 ≠ n) :
    insertLoop n d false ds = (insertByName n d ds).map (·.2) := by
  induction ds with
  | nil => simp [insertLoop, insertByName]
  | cons x xs ih =>
    obtain ⟨m, e⟩ := x
    have hm : m ≠ n := hn (m, e) (by simp)
    have ih' := ih (fun y hy => hn y (by simp [hy]))
    simp only [insertLoop, insertByName, Bool.false_or]
    by_cases hlt : ltStr m n = true
    · have h2 : ltStr n m = false := ltStr_asymm hlt
      have h3 : ¬ n = m := fun h => hm h.symm
      simp [hlt, h2, h3, ih']
    · have h2 : ltStr n m = true := by
        rcases ltStr_total hm with h | h
        · exact absurd h hlt
        · exact h
      simp [hlt, h2, insertLoop_true]

theorem insertByName_eq (n d : Str) (l : List (Str × Str)) : insertByName n d l = upsert n d id l := by
  induction l with
  | nil => rfl
  | cons e es ih => simp only [insertByName, upsert, ih, id]

theorem insertByName_perm (n d : Str) (l : List (Str × Str)) (hn : ∀ x ∈ l, x.1 ≠ n) :
    (insertByName n d l).Perm ((n, d) :: l) := insertByName_eq n d l ▸ upsert_perm hn

theorem insertByName_mem (n d : Str) (l : List (Str × Str)) (x : Str × Str)
    (h : x ∈ insertByName n d l) : x = (n, d) ∨ x ∈ l := by
  rcases mem_upsert (insertByName_eq n d l ▸ h) with h | h | ⟨w, hw, rfl⟩
  · exact .inr h
  · exact .inl h
  · exact .inr hw

theorem sortedN_iff {l : List (Str × Str)} : SortedN l ↔ SortedS (l.map (·.1)) :=
  (List.pairwise_map (f := fun x : Str × Str => x.1) (R := fun a b => ltStr a b = true)).symm

theorem insertByName_sorted (n d : Str) (l : List (Str × Str)) (hs : SortedN l) : SortedN (insertByName n d l) := by
  rw [sortedN_iff, insertByName_eq, keys_upsert]
  exact insertSorted_sorted n _ (sortedN_iff.mp hs)

theorem foldl_insert_perm (gens acc : List (Str × Str))
    (hnd : (gens.map (·.1)).Nodup) (hdisj : ∀ g ∈ gens, ∀ a ∈ acc, a.1 ≠ g.1) :
    (gens.foldl (fun bs g => insertByName g.1 g.2 bs) acc).Perm (gens.reverse ++ acc) := by
  induction gens generalizing acc with
  | nil => simp
  | cons g gs ih =>
    simp only [List.foldl_cons, List.reverse_cons, List.append_assoc]
    obtain ⟨hg, hnd'⟩ := List.nodup_cons.mp hnd
    have hp := insertByName_perm g.1 g.2 acc (fun a ha => hdisj g (by simp) a ha)
    refine (ih _ hnd' fun g' hg' a ha => ?_).trans (List.Perm.append_left _ hp)
    rcases insertByName_mem _ _ _ _ ha with rfl | h
    · exact fun e => hg (List.mem_map.mpr ⟨g', hg', e.symm⟩)
    · exact hdisj g' (by simp [hg']) a h

theorem insertAll_perm_sorted (g : List (Str × Str)) (hnd : (g.map (·.1)).Nodup) :
    (insertAll g).Perm g ∧ SortedN (insertAll g) :=
  ⟨(foldl_insert_perm g [] hnd (by simp)).trans (by simp),
   List.foldlRecOn g _ List.Pairwise.nil fun bs h x _ => insertByName_sorted x.1 x.2 bs h⟩

/-- a name-sorted list is determined by its members (strictness makes the order antisymmetric) -/
theorem insertAll_perm {g₁ g₂ : List (Str × Str)} (hp : g₁.Perm g₂) (hnd : (g₁.map (·.1)).Nodup) :
    insertAll g₁ = insertAll g₂ := by
  obtain ⟨p₁, s₁⟩ := insertAll_perm_sorted g₁ hnd
  obtain ⟨p₂, s₂⟩ := insertAll_perm_sorted g₂ ((hp.map _).nodup_iff.mp hnd)
  exact (p₁.trans (hp.trans p₂.symm)).eq_of_pairwise
    (fun a b _ _ hab hba => absurd hba (by simp [ltStr_asymm hab])) s₁ s₂

end TsRs.Merge
