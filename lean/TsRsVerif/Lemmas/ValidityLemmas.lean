import TsRsVerif.Model.Validity
/-! The two shapes of the derive's diagnostics: a chain of checks of which the first failing one wins, and a fold over fields or variants that
keeps the first error. -/
namespace TsRs
open Attr Validity

/-- a chain `if c₁ then some m₁ else if c₂ then some m₂ else … none` of checks complains iff one of them fires -/
theorem isSome_ite_some {c : Prop} [Decidable c] (m : String) (r : Option String) :
    ((if c then some m else r).isSome = true) = (c ∨ r.isSome = true) := by split <;> simp [*]

theorem foldl_hits {α : Type} (step : Outcome → α → Outcome) (habs : ∀ m x, step (.error m) x = .error m) :
    ∀ (l : List α) (x : α), x ∈ l → (∃ m, step .ok x = .error m) → ∃ m, l.foldl step .ok = .error m
  | [], _, h, _ => by cases h
  | y :: ys, x, h, hx => by
    simp only [List.foldl_cons]
    cases hy : step .ok y with
    | error m => exact ⟨m, List.foldlRecOn ys step (motive := (· = .error m)) rfl fun _ h x _ => h ▸ habs m x⟩
    | ok =>
      rcases List.mem_cons.mp h with rfl | h'
      · obtain ⟨m, hm⟩ := hx; rw [hy] at hm; cases hm
      · exact foldl_hits step habs ys x h' hx

/-- a complaint about one field is a complaint about the field list it stands in (unless `type`/`as` replace the whole type) -/
theorem fieldsOutcome_rejects (compat : Bool) (shape : Shape) (fields : List AField) (f : AField) (fp : Parsed) (m : String)
    (hsh : shape ≠ .unit) (hf : f ∈ fields) (hfp : fromAttrs compat .field f.ts f.serde = .ok fp)
    (hm : fieldAttr compat fp f.named = some m) : ∃ m', fieldsOutcome compat false false shape fields = .error m' := by
  -- the `match` on the shape reduces by `hsh`
  simp only [fieldsOutcome, Bool.or_self, Bool.false_eq_true, ↓reduceIte]
  exact foldl_hits (fieldStep compat) (fun _ _ => rfl) fields f hf ⟨m, by simp [fieldStep, ofPRes, hfp, hm]⟩

/-- a variant that `format_variant` rejects makes the derive of its enum fail, whatever the other variants hold -/
theorem derive_variantStep_rejects (compat : Bool) (it : AItem) (p : Parsed) (v : AVariant)
    (hs : it.isEnum = true) (hp : fromAttrs compat .enum it.ts it.serde = .ok p) (hv : enumAttr p = none)
    (ho : has p "type_override" = false) (ha : has p "type_as" = false)
    (hmem : v ∈ it.variants) (hstep : ∃ m, variantStep compat p .ok v = .error m) : ∃ m', derive compat it = .error m' := by
  simp only [derive, hs, ofPRes, hp, hv, ho, ha, Bool.not_true, Bool.false_eq_true, ↓reduceIte, Bool.or_self]
  exact foldl_hits (variantStep compat p) (fun _ _ => rfl) it.variants v hmem hstep

end TsRs
