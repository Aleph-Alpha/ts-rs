import TsRsVerif.Model.TsEval
import TsRsVerif.Lemmas.MemberInd
/-! Soundness of the executable membership test: `memberb … = true → Member …`.
    So a `true` verdict of the oracle (run on the implementation's real output) IS a statement in
    the formal semantics of `Model/Ts.lean`.

    The recursion is on the fuel alone. Where `memberb` runs over a list (`all`, `zip`, `any`) at the same fuel, the
    list-shaped premise of `Member` is obtained from its element-wise form (`Lemmas/MemberInd.lean`), not by a
    recursion of its own. -/
namespace TsRs.Ts

theorem splits_perm {α : Type} : ∀ (l : List α) (a b : List α), (a, b) ∈ splits l → (a ++ b).Perm l
  | [], a, b, h => by simp [splits] at h; obtain ⟨rfl, rfl⟩ := h; simp
  | x :: xs, a, b, h => by
    simp only [splits, List.mem_flatMap] at h
    obtain ⟨⟨a', b'⟩, hmem, hab⟩ := h
    have ih := splits_perm xs a' b' hmem
    simp only [List.mem_cons, Prod.mk.injEq, List.not_mem_nil, or_false] at hab
    rcases hab with ⟨rfl, rfl⟩ | ⟨rfl, rfl⟩
    · simpa using ih
    · exact (List.perm_middle).trans (List.Perm.cons x ih)

theorem KeyP.of_keyJson {P : Ts → JVal → Prop} {k : Ts} {key : Str} {kj : JVal} (h : kj ∈ keyJson key) (hp : P k kj) : KeyP P k key := by
  unfold keyJson at h
  rcases List.mem_append.1 h with h | h
  · cases List.mem_singleton.1 h; exact .inl hp
  · split at h
    · split at h
      · next i _ hi => cases List.mem_singleton.1 h; exact .inr ⟨i, hi, hp⟩
      · cases h
    · cases h

theorem member_inter_of_forall {D : Decls} {j : JVal} (hj : j.isObj = false) :
    ∀ {ts : List Ts}, (∀ t ∈ ts, Member D t j) → Member D (.inter ts) j
  | [], _ => .interNil
  | [t], h => .interOne (h t (by simp))
  | t :: _ :: _, h => .interVal hj (h t (by simp)) (member_inter_of_forall hj fun x hx => h x (by simp [hx]))

theorem fieldOK_of_check {D : Decls} {kvs : List (Str × JVal)} {fld : TsKey × Ts} {chk : JVal → Bool}
    (hchk : ∀ v, chk v = true → Member D fld.2 v)
    (h : fieldCheck (JVal.lookup fld.1.name kvs) fld.1.optional chk = true) :
    (∃ v, JVal.lookup fld.1.name kvs = some v ∧ Member D fld.2 v) ∨ (JVal.lookup fld.1.name kvs = none ∧ fld.1.optional = true) := by
  cases hl : JVal.lookup fld.1.name kvs with
  | some v => rw [hl] at h; exact .inl ⟨v, rfl, hchk v h⟩
  | none => rw [hl] at h; exact .inr ⟨rfl, h⟩

mutual
theorem memberb_sound (D : Decls) : ∀ (f : Nat) (t : Ts) (j : JVal), memberb D f t j = true → Member D t j
  | 0, _, _, h => nomatch h
  | f + 1, t, j, h => by
    -- one case for each row of the table in `memberb`, in its order
    unfold memberb at h
    split at h
    · exact .numberInt _
    · exact .numberFloat _
    · exact .bigint _
    · exact .string _
    · exact .boolean _
    · exact .null
    · rw [beq_iff_eq] at h; subst h; exact .lit _
    · split at h
      · exact .ref ‹_› (memberb_sound D f _ _ h)
      · cases h
    · exact .array (memberAll_iff.2 fun x hx => memberb_sound D f _ x (List.all_eq_true.1 h x hx))
    · rw [Bool.and_eq_true, beq_iff_eq, List.all_eq_true] at h
      exact .tuple (memberZip_iff.2 (zipP_iff_zip.2 ⟨h.1, fun p hp => memberb_sound D f _ _ (h.2 p hp)⟩))
    · exact .neverArray
    · exact .emptyRecord
    · next fs kvs =>
      rw [Bool.and_eq_true, List.all_eq_true, List.all_eq_true] at h
      refine .obj (memberFields_iff.2 fun fld hf => fieldOK_of_check (memberb_sound D f _) (h.1 fld hf)) fun k hk => ?_
      obtain ⟨kv, hkv, rfl⟩ := List.mem_map.1 hk
      obtain ⟨fld, hf, he⟩ := List.any_eq_true.1 (h.2 kv hkv)
      exact ⟨fld, hf, by simpa using he⟩
    · refine .mapped (memberMap_iff.2 fun kv hkv => ?_)
      have h1 := List.all_eq_true.1 h kv hkv
      simp only [Bool.and_eq_true, List.any_eq_true] at h1
      obtain ⟨⟨kj, hkj, hm⟩, hv⟩ := h1
      exact ⟨.of_keyJson hkj (memberb_sound D f _ _ hm), memberb_sound D f _ _ hv⟩
    · obtain ⟨x, hx, hm⟩ := List.any_eq_true.1 h
      exact .union hx (memberb_sound D f x _ hm)
    · exact interObjb_sound D f _ _ h
    · next hno =>
      refine member_inter_of_forall ?_ fun x hx => memberb_sound D f x _ (List.all_eq_true.1 h x hx)
      cases j <;> first | rfl | exact (hno _ rfl).elim
    · exact .paren (memberb_sound D f _ _ h)
    · cases h
theorem interObjb_sound (D : Decls) : ∀ (f : Nat) (ts : List Ts) (kvs : List (Str × JVal)),
    interObjb D f ts kvs = true → Member D (.inter ts) (.obj kvs)
  | 0, _, _, h => nomatch h
  | _ + 1, [], _, _ => Member.interNil
  | f + 1, [t], kvs, h => by simp only [interObjb] at h; exact Member.interOne (memberb_sound D f t _ h)
  | f + 1, t :: t' :: ts, kvs, h => by
    simp only [interObjb] at h
    rw [List.any_eq_true] at h
    obtain ⟨⟨a, b⟩, hab, hm⟩ := h
    simp only [Bool.and_eq_true] at hm
    exact Member.interObj (splits_perm kvs a b hab) (memberb_sound D f t _ hm.1) (interObjb_sound D f (t' :: ts) b hm.2) (by simp)
end

theorem all_sound (D : Decls) (f : Nat) (t : Ts) : ∀ (js : List JVal), (∀ x ∈ js, memberb D f t x = true) → MemberAll D t js :=
  fun _ h => memberAll_iff.2 fun x hx => memberb_sound D f t x (h x hx)

theorem zip_sound (D : Decls) (f : Nat) : ∀ (ts : List Ts) (js : List JVal), ts.length = js.length →
    (∀ p ∈ ts.zip js, memberb D f p.1 p.2 = true) → MemberZip D ts js :=
  fun _ _ hl h => memberZip_iff.2 (zipP_iff_zip.2 ⟨hl, fun p hp => memberb_sound D f _ _ (h p hp)⟩)

theorem fields_sound (D : Decls) (f : Nat) : ∀ (fs : List (TsKey × Ts)) (kvs : List (Str × JVal)),
    (∀ fld ∈ fs, fieldCheck (JVal.lookup fld.1.name kvs) fld.1.optional (fun v => memberb D f fld.2 v) = true) →
    MemberFields D fs kvs :=
  fun _ _ h => memberFields_iff.2 fun fld hf => fieldOK_of_check (memberb_sound D f _) (h fld hf)

theorem inter_val_sound (D : Decls) (f : Nat) : ∀ (ts : List Ts) (j : JVal), j.isObj = false →
    (∀ t ∈ ts, memberb D f t j = true) → Member D (.inter ts) j :=
  fun _ _ hj h => member_inter_of_forall hj fun t ht => memberb_sound D f t _ (h t ht)

end TsRs.Ts
