import TsRsVerif.Model.Merge
import TsRsVerif.Lemmas.TextLemmas
/-!
The blank line `\n\n` at which `Merge.merge` cuts the TEXT of a file into header and declaration blocks: `split` / `split_once` walk over
a piece that has none inside and does not end in a line break (`noMatch_nn`: `Text.NoMatch` for this separator).
-/
namespace TsRs
open Text Merge

/-- the text contains two consecutive line breaks -/
def hasNN : Str → Bool
  | '\n' :: '\n' :: _ => true
  | _ :: r => hasNN r
  | [] => false

def endsNl (s : Str) : Bool := s.getLast? = some '\n'
def startsNl (s : Str) : Bool := s.head? = some '\n'

theorem hasNN_cons (c : Char) (s : Str) : hasNN (c :: s) = ((c = '\n' && startsNl s) || hasNN s) := by
  conv => lhs; unfold hasNN
  split
  · rename_i heq; cases heq; simp [startsNl]
  · rename_i hne heq; cases heq
    have : ¬ (c = '\n' ∧ s.head? = some '\n') := fun ⟨hc, hs⟩ => by
      obtain ⟨t, rfl⟩ := List.head?_eq_some_iff.mp hs; exact hne t hc rfl
    simp [startsNl, this]
  · rename_i heq; cases heq

/-- no blank line in the piece and no line break at its end: none forms across its end either, whatever follows -/
theorem noMatch_nn : ∀ (p : Str), hasNN p = false → endsNl p = false → ∀ r, NoMatch nn r p
  | [], _, _, _ => trivial
  | c :: p, h, he, r => by
    rw [hasNN_cons, Bool.or_eq_false_iff] at h
    cases p with
    | nil => exact ⟨stripPrefix_none_of_second fun e => by simp [endsNl, ← e] at he, trivial⟩
    | cons d p =>
      exact ⟨stripPrefix_none_of_second fun e => by simpa [startsNl, ← e] using h.1,
        noMatch_nn (d :: p) h.2 (by simpa [endsNl] using he) r⟩

theorem split_nn_piece (p rest : Str) (hn : hasNN p = false) (he : endsNl p = false) :
    split nn (p ++ '\n' :: '\n' :: rest) = p :: split nn rest :=
  split_piece (by decide) p rest (noMatch_nn p hn he _)

theorem split_nn_last (d : Str) (hn : hasNN d = false) (he : endsNl d = false) : split nn (d ++ ['\n']) = [d ++ ['\n']] :=
  split_last _ ((noMatch_append d _).mpr ⟨noMatch_nn d hn he _, by simp [NoMatch, nn, stripPrefix]⟩)

theorem splitOnce_nn (h rest : Str) (hm : NoMatch nn ('\n' :: '\n' :: rest) h) :
    splitOnce nn (h ++ '\n' :: '\n' :: rest) = some (h, rest) :=
  splitOnce_piece (by decide) h rest hm

end TsRs
