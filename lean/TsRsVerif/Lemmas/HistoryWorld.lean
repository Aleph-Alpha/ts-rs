import TsRsVerif.Lemmas.History
import TsRsVerif.Lemmas.ExportLemmas
/-!
# A shared file as a function of the set of exports written into it (file system + registry level)

`exportAndMerge` over the file-system / registry model refines the abstract content `canonSt`. `FileAt` is the state of one
shared file in a process (not written yet, or holding the canonical text of the exports so far with exactly their identifiers
registered); `exportGen_step` is the one place where an export into such a file is computed. Every history theorem — one path
or several, through `export_and_merge` or `export_to` — is this step plus a frame argument.
-/
namespace TsRs
open Merge Fs Export

def exportGen (w : World) (path : Str) (g : GenT) : World × Outcome := exportAndMerge w path g.ident (genText g)

/-- all exports in order; `true` = every one returned `Ok` -/
def runAll (path : Str) : World → List GenT → World × Bool
  | w, [] => (w, true)
  | w, g :: gs =>
    match exportGen w path g with
    | (w', .ok) => runAll path w' gs
    | (w', _) => (w', false)

/-- the process has written `gens` (in this order) into the file `path` at `loc`, and nothing else: the three clauses that the
invariants `MInv`, `TInv` have for every file -/
structure FileAt (path : Str) (loc : Loc) (gens : List GenT) (w : World) : Prop where
  regNone : gens = [] → regGet w.reg (regKey path) = none
  file : gens ≠ [] → w.fs.lookup loc = some (.file (fileText (canonSt gens)))
  regSome : gens ≠ [] → ∃ names, regGet w.reg (regKey path) = some names ∧ ∀ n, n ∈ names ↔ n ∈ gens.map (·.ident)

theorem FileAt.frame {path : Str} {loc : Loc} {gens : List GenT} {w w' : World} (h : FileAt path loc gens w)
    (hfs : w'.fs.lookup loc = w.fs.lookup loc) (hreg : regGet w'.reg (regKey path) = regGet w.reg (regKey path)) :
    FileAt path loc gens w' :=
  ⟨hreg ▸ h.regNone, hfs ▸ h.file, hreg ▸ h.regSome⟩

theorem FileAt.notdir {path : Str} {loc : Loc} {gens : List GenT} {w : World} (h : FileAt path loc gens w) (hne : gens ≠ []) :
    w.fs.lookup loc ≠ some .dir := by rw [h.file hne]; simp

/-- **one export**: the truncating create of a first export and the merge-and-write of a later one both leave the canonical
text of the exports so far, and register the identifier -/
theorem exportGen_step (w : World) (path : Str) (loc : Loc) (gens : List GenT) (g : GenT)
    (hp : w.poisoned = false) (hc : CanCreate w.fs path loc) (hat : FileAt path loc gens w) (hok : GensOK (gens ++ [g])) :
    exportGen w path g = ({ w with fs := w.fs.set loc (.file (fileText (canonSt (gens ++ [g])))),
                                   reg := regInsert w.reg (regKey path) g.ident }, .ok) := by
  have hg : GenOK g := hok.genOK g (by simp)
  by_cases hemp : gens = []
  · subst hemp
    have hcr := (fileCreate_eq_some w.fs path (genText g) _).mpr ⟨loc, hc, rfl⟩
    rw [genText_eq, canonSt_single g hg] at hcr
    simp [exportGen, exportAndMerge, hp, hat.regNone rfl, hcr, genText_eq, canonSt_single g hg]
  · obtain ⟨names, hreg, hnames⟩ := hat.regSome hemp
    have hnm := List.nodup_append.mp (List.map_append ▸ hok.names)
    have hid := List.nodup_append.mp (List.map_append ▸ hok.idents)
    have hnotin : g.ident ∉ names := fun h => hid.2.2 _ ((hnames _).mp h) _ (by simp) rfl
    have hopen := (openRead_eq_some w.fs path loc _).mpr ⟨hc.resolves, hat.file hemp⟩
    have hst : StOK (canonSt gens) := canonSt_ok gens hemp hok.left.genOK
    -- the blocks of the file are those of `gens`, none of which declares the name of `g`
    have hfr : ∀ b ∈ (canonSt gens).blocks, b.1 ≠ g.name := by
      intro b hb e
      obtain ⟨g', hg', rfl⟩ := List.mem_map.mp ((canonSt_lossless gens hnm.1).1.mem_iff.mp hb)
      exact hnm.2.2 _ (List.mem_map.mpr ⟨g', hg', rfl⟩) _ (by simp) e
    have hmerge := merge_step (canonSt gens) g hst hg hfr
    have hwrite := write_step (canonSt gens) g hst
    rw [canonSt_snoc] at hmerge hwrite
    simp only [exportGen, exportAndMerge, hp, Bool.false_eq_true, ↓reduceIte, hreg, hnotin, hopen, hmerge, hwrite]

theorem FileAt.step {path : Str} {loc : Loc} {gens : List GenT} {w : World} (hat : FileAt path loc gens w) (hl : loc ≠ [])
    (g : GenT) : FileAt path loc (gens ++ [g]) { w with fs := w.fs.set loc (.file (fileText (canonSt (gens ++ [g])))),
                                                        reg := regInsert w.reg (regKey path) g.ident } := by
  refine ⟨fun h => by simp at h, fun _ => lookup_set_self _ _ hl, fun _ => ?_⟩
  obtain ⟨names', hn1, hn2⟩ := regGet_regInsert w.reg (regKey path) g.ident
  refine ⟨names', hn1, fun n => ?_⟩
  rw [hn2 n]
  by_cases hemp : gens = []
  · subst hemp; simp [hat.regNone rfl]
  · obtain ⟨names, hreg, hnames⟩ := hat.regSome hemp
    simp [hreg, hnames n, or_comm]

/-- the run so far wrote `gens` into `path`: the file system is `fs0` with the canonical file of `gens` at `loc` (`fs0` itself
while nothing has been written) -/
def HInv (fs0 : Fs) (path : Str) (loc : Loc) (gens : List GenT) (w : World) : Prop :=
  w.poisoned = false ∧ FileAt path loc gens w ∧
  ((gens = [] ∧ w.fs = fs0) ∨ (gens ≠ [] ∧ w.fs = fs0.set loc (.file (fileText (canonSt gens)))))

theorem hinv_step (fs0 : Fs) (path : Str) (loc : Loc) (hc : CanCreate fs0 path loc) (pre : List GenT) (g : GenT) (w : World)
    (hok : GensOK (pre ++ [g])) (h : HInv fs0 path loc pre w) :
    ∃ w1, exportGen w path g = (w1, .ok) ∧ HInv fs0 path loc (pre ++ [g]) w1 := by
  obtain ⟨hp, hat, hfs⟩ := h
  -- the file system differs from `fs0` at most by a regular file at `loc`
  have hw : CanCreate w.fs path loc ∧ ∀ n, w.fs.set loc n = fs0.set loc n := by
    rcases hfs with ⟨_, h⟩ | ⟨hne, h⟩ <;> rw [h]
    · exact ⟨hc, fun _ => rfl⟩
    · exact ⟨⟨by rw [resolve_set_file _ _ _ hc.notdir, hc.resolves], hc.nonroot, by rw [isDir_set_file _ _ _ hc.notdir, hc.parent],
        by rw [lookup_set_self _ _ hc.nonroot]; simp⟩, fun _ => set_set ..⟩
  exact ⟨_, exportGen_step w path loc pre g hp hw.1 hat hok, hp, hat.step hc.nonroot g, Or.inr ⟨by simp, hw.2 _⟩⟩

theorem history_aux (fs0 : Fs) (path : Str) (loc : Loc) (hc : CanCreate fs0 path loc) (gs pre : List GenT) (w : World)
    (hok : GensOK (pre ++ gs)) (h : HInv fs0 path loc pre w) :
    ∃ w', runAll path w gs = (w', true) ∧ HInv fs0 path loc (pre ++ gs) w' := by
  induction gs generalizing pre w with
  | nil => exact ⟨w, rfl, by rwa [List.append_nil]⟩
  | cons g gs ih =>
    rw [List.append_cons] at hok ⊢
    obtain ⟨w1, h1, hinv1⟩ := hinv_step fs0 path loc hc pre g w hok.left h
    obtain ⟨w2, h2, hinv2⟩ := ih (pre ++ [g]) w1 hok hinv1
    exact ⟨w2, by simp only [runAll, h1, h2], hinv2⟩

theorem history_canonical (w : World) (path : Str) (gs : List GenT) (hne : gs ≠ []) (hok : GensOK gs)
    (hp : w.poisoned = false) (hreg : regGet w.reg (regKey path) = none)
    (hc : ∃ text, (w.fs.fileCreate path text).isSome) :
    ∃ w' loc, runAll path w gs = (w', true) ∧ w'.poisoned = false ∧ w.fs.resolve path = some loc ∧
      w'.fs = w.fs.set loc (.file (fileText (canonSt gs))) ∧
      ∃ names, regGet w'.reg (regKey path) = some names ∧ ∀ n, n ∈ names ↔ n ∈ gs.map (·.ident) := by
  obtain ⟨text, hc⟩ := hc
  obtain ⟨loc, hc⟩ := (fileCreate_isSome _ _ _).mp hc
  obtain ⟨w', hrun, hp', hat, hfs⟩ := history_aux w.fs path loc hc gs [] w hok
    ⟨hp, ⟨fun _ => hreg, fun h => absurd rfl h, fun h => absurd rfl h⟩, Or.inl ⟨rfl, rfl⟩⟩
  simp only [List.nil_append] at hat hfs
  exact ⟨w', loc, hrun, hp', hc.resolves, hfs.resolve_left (fun h => hne h.1) |>.2, hat.regSome hne⟩

end TsRs
