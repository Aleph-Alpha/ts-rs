import TsRsVerif.Model.Path
import TsRsVerif.Lemmas.PathLemmas
/-! `path::absolute` returns an absolute, normalised path and is idempotent. -/
namespace TsRs.Path
open TsRs.Text

theorem components_abs (s : Str) (h : isAbsolute s = true) :
    ∃ cs, components s = Comp.root :: cs ∧ ∀ c ∈ cs, c ≠ Comp.root ∧ ∀ n, c = Comp.normal n → CompName n := by
  cases s with
  | nil => simp [isAbsolute] at h
  | cons c rest =>
    obtain rfl : c = '/' := by simpa [isAbsolute] using h
    refine ⟨_, rfl, pieceComps_forall (by simp) (by simp) _ (fun n hn h0 h1 h2 => ⟨by simp, fun m e => ?_⟩) false⟩
    cases e; exact ⟨h0, splitChar_no_sep '/' rest n hn, h1, h2⟩

/-- the stack of `absolute`'s loop stays the root followed by proper names: `.` is skipped, `..` takes the last name off (none off
the bare root), a name is put on -/
theorem normLoop_shape : ∀ (cs : List Comp) (ns : List Str) (out : List Comp), (∀ n ∈ ns, CompName n) →
    (∀ c ∈ cs, c ≠ Comp.root ∧ ∀ n, c = Comp.normal n → CompName n) → normLoop (Comp.root :: N ns) cs = some out →
    ∃ ns', out = Comp.root :: N ns' ∧ ∀ n ∈ ns', CompName n
  | [], ns, out, hns, _, h => ⟨ns, by simpa [normLoop] using h.symm, hns⟩
  | c :: cs, ns, out, hns, hcs, h => by
    have hcs' := fun c' hc' => hcs c' (List.mem_cons_of_mem _ hc')
    obtain ⟨hroot, hnorm⟩ := hcs c (by simp)
    cases c with
    | root => exact absurd rfl hroot
    | cur => exact normLoop_shape cs ns out hns hcs' h
    | parent =>
      rcases List.eq_nil_or_concat ns with rfl | ⟨ns', x, rfl⟩
      · simp [normLoop, N] at h
      · have : (Comp.root :: N (ns'.concat x)).reverse = Comp.normal x :: (Comp.root :: N ns').reverse := by simp [N]
        rw [normLoop, this] at h
        simp only [List.reverse_reverse] at h
        exact normLoop_shape cs ns' out (fun n hn => hns n (by simp [hn])) hcs' h
    | normal n =>
      have : Comp.root :: N ns ++ [Comp.normal n] = Comp.root :: N (ns ++ [n]) := by simp [N]
      simp only [normLoop] at h
      rw [this] at h
      exact normLoop_shape cs (ns ++ [n]) out (by simpa [or_imp, forall_and] using ⟨hns, hnorm n rfl⟩) hcs' h

theorem join_abs (cwd p : Str) (h : isAbsolute cwd = true) : isAbsolute (join cwd p) = true := by
  cases cwd with
  | nil => simp [isAbsolute] at h
  | cons c cs =>
    unfold join push
    split
    · assumption
    · rw [if_neg (by simp)]; split <;> simpa [isAbsolute] using h

/-- **`absolute` yields `/` followed by proper names** when the current directory is absolute -/
theorem absolute_shape (cwd p q : Str) (hcwd : isAbsolute cwd = true) (h : absolute cwd p = .ok q) :
    ∃ ns, q = ofComps (Comp.root :: N ns) ∧ ∀ n ∈ ns, CompName n := by
  unfold absolute at h
  obtain ⟨cs, hcs, hok⟩ := components_abs (join cwd p) (join_abs cwd p hcwd)
  rw [hcs, show normLoop [] (Comp.root :: cs) = normLoop (Comp.root :: N []) cs from rfl] at h
  cases hn : normLoop (Comp.root :: N []) cs with
  | none => simp [hn] at h
  | some out =>
    obtain ⟨ns, rfl, hns⟩ := normLoop_shape cs [] out (by simp) hok hn
    simp only [hn] at h
    injection h with h
    exact ⟨ns, h.symm, hns⟩

theorem normLoop_normals (ns : List Str) (out : List Comp) : normLoop out (N ns) = some (out ++ N ns) := by
  induction ns generalizing out with
  | nil => simp [normLoop, N]
  | cons n ns ih => simp only [N, List.map_cons, normLoop]; rw [show List.map Comp.normal ns = N ns from rfl, ih]; simp [N]

/-- **`absolute` is idempotent** (so the registry key does not depend on how often, or through
    which entry point, a path has been normalised) -/
theorem absolute_idem (cwd p q : Str) (hcwd : isAbsolute cwd = true) (h : absolute cwd p = .ok q) :
    absolute cwd q = .ok q := by
  obtain ⟨ns, hq, hns⟩ := absolute_shape cwd p q hcwd h
  have hqa : isAbsolute q = true := by subst hq; simp [ofComps, isAbsolute]
  have hj : join cwd q = q := by simp [join, push, hqa]
  unfold absolute
  rw [hj, hq, components_ofComps ns hns]
  have : normLoop [] (Comp.root :: N ns) = some (Comp.root :: N ns) := by
    simp only [normLoop]; rw [normLoop_normals]; simp
  rw [this]

end TsRs.Path
