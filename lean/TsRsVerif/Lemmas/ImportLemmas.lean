import TsRsVerif.Model.Merge
import TsRsVerif.Lemmas.Upsert
/-!
The import map of `generate_imports` / `merge` (`BTreeMap<&str, BTreeSet<&str>>` as a sorted association list of sorted
lists). Reading a line into it is ONE insertion under the line's path (`addLine_eq`); from that and `Lemmas/Upsert.lean`:
the canonical form is kept, the order of the lines does not matter, a canonical map read back line by line is itself.
-/
namespace TsRs.Merge
open TsRs.Text

/-- every name list strictly sorted (so: no name twice under one specifier) and the specifiers
    strictly sorted (so: one import line per specifier) -/
def ImportsWF (m : Imports) : Prop :=
  (m.map (·.1)).Pairwise (fun a b => ltStr a b = true) ∧ ∀ e ∈ m, SortedS e.2

theorem touchPath_eq (p : Str) (m : Imports) : touchPath p m = upsert p [] id m := by
  induction m with
  | nil => rfl
  | cons e es ih => simp only [touchPath, upsert, ih, id]

theorem insertImport_eq (p t : Str) (m : Imports) : insertImport p t m = upsert p [t] (insertSorted t) m := by
  induction m with
  | nil => rfl
  | cons e es ih => simp only [insertImport, upsert, ih]

theorem addLine_eq (m : Imports) (l : Str × List Str) : addLine m l = upsert l.1 (insertAllS l.2 []) (insertAllS l.2) m := by
  have : ∀ (ts v : List Str) (f : List Str → List Str),
      ts.foldl (fun acc t => insertImport l.1 t acc) (upsert l.1 v f m) = upsert l.1 (insertAllS ts v) (insertAllS ts ∘ f) m := by
    intro ts
    induction ts with
    | nil => intro v f; rfl
    | cons t ts ih => intro v f; rw [List.foldl_cons, insertImport_eq, upsert_upsert]; exact ih _ _
  rw [addLine, touchPath_eq]
  exact this l.2 [] id

theorem upsert_wf {m : Imports} (h : ImportsWF m) (k : Str) {v : List Str} {f : List Str → List Str}
    (hv : SortedS v) (hf : ∀ w, SortedS w → SortedS (f w)) : ImportsWF (upsert k v f m) := by
  refine ⟨?_, fun x hx => ?_⟩
  · rw [keys_upsert]; exact insertSorted_sorted k _ h.1
  · rcases mem_upsert hx with hx | rfl | ⟨w, hw, rfl⟩
    · exact h.2 x hx
    · exact hv
    · exact hf w (h.2 _ hw)

theorem insertImport_keys (path ty : Str) (m : Imports) (k : Str) :
    k ∈ (insertImport path ty m).map (·.1) ↔ k = path ∨ k ∈ m.map (·.1) := by
  rw [insertImport_eq, keys_upsert, insertSorted_mem]

theorem insertImport_wf (path ty : Str) (m : Imports) (h : ImportsWF m) : ImportsWF (insertImport path ty m) :=
  insertImport_eq path ty m ▸ upsert_wf h path (by simp [SortedS]) (insertSorted_sorted ty)

theorem addLine_wf (m : Imports) (l : Str × List Str) (h : ImportsWF m) : ImportsWF (addLine m l) :=
  addLine_eq m l ▸ upsert_wf h l.1 (foldl_insertSorted_sorted _ _ (by simp [SortedS])) (foldl_insertSorted_sorted l.2)

theorem foldl_addLine_wf (ls : List (Str × List Str)) (m : Imports) (h : ImportsWF m) : ImportsWF (ls.foldl addLine m) :=
  List.foldlRecOn ls _ h fun m h l _ => addLine_wf m l h

theorem mem_addLine {m : Imports} {l x : Str × List Str} (h : x ∈ addLine m l) :
    x ∈ m ∨ x = (l.1, insertAllS l.2 []) ∨ ∃ w, (l.1, w) ∈ m ∧ x = (l.1, insertAllS l.2 w) :=
  mem_upsert (addLine_eq m l ▸ h)

theorem addLine_comm (m : Imports) (l₁ l₂ : Str × List Str) : addLine (addLine m l₁) l₂ = addLine (addLine m l₂) l₁ := by
  have hc : ∀ acc, insertAllS l₂.2 (insertAllS l₁.2 acc) = insertAllS l₁.2 (insertAllS l₂.2 acc) := fun acc => by
    simpa [insertAllS, List.foldl_append] using foldl_insertSorted_perm (List.perm_append_comm (l₁ := l₁.2) (l₂ := l₂.2)) acc
  simp only [addLine_eq]
  by_cases h : l₁.1 = l₂.1
  · simp only [← h, upsert_upsert, Function.comp_def, hc]
  · exact (upsert_comm h ..).symm

theorem foldl_addLine_perm {ls₁ ls₂ : List (Str × List Str)} (h : ls₁.Perm ls₂) (m : Imports) :
    ls₁.foldl addLine m = ls₂.foldl addLine m :=
  h.foldl_eq' (fun x _ y _ z => addLine_comm z x y) m

theorem foldl_addLine_end : ∀ (m acc : Imports), ImportsWF (acc ++ m) → m.foldl addLine acc = acc ++ m
  | [], acc, _ => by simp
  | (p, tys) :: rest, acc, h => by
    have hacc : ∀ e ∈ acc, ltStr e.1 p = true := fun e he =>
      (List.pairwise_append.mp (by simpa using h.1)).2.2 e.1 (List.mem_map_of_mem he) p (by simp)
    have : addLine acc (p, tys) = acc ++ [(p, tys)] := by
      simpa [addLine_eq, upsert, foldl_insertSorted_append tys [] (by simpa using h.2 (p, tys) (by simp))]
        using upsert_append (v := insertAllS tys []) (f := insertAllS tys) hacc []
    rw [List.foldl_cons, this, foldl_addLine_end rest (acc ++ [(p, tys)]) (by simpa using h)]
    simp

theorem foldl_addLine_self (m : Imports) (h : ImportsWF m) : m.foldl addLine [] = m := by
  simpa using foldl_addLine_end m [] (by simpa using h)

/-- merging into a file whose import block is already the map of earlier lines gives the map of all lines -/
theorem foldl_addLine_absorb (ls xs : List (Str × List Str)) :
    (ls.foldl addLine [] ++ xs).foldl addLine [] = (ls ++ xs).foldl addLine [] := by
  rw [List.foldl_append, List.foldl_append, foldl_addLine_self _ (foldl_addLine_wf ls [] (by simp [ImportsWF]))]

end TsRs.Merge
