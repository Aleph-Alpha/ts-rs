import TsRsVerif.Model.Ts
/-! `Ts.subst` on lists and property lists is a `map`; the empty substitution is the identity. -/
namespace TsRs
open Ts

theorem substList_eq_map (σ : List (Str × Ts)) : ∀ (ts : List Ts), substList σ ts = ts.map (subst σ)
  | [] => rfl
  | t :: ts => by rw [substList, substList_eq_map σ ts, List.map_cons]

theorem substFields_map (σ : List (Str × Ts)) : ∀ (fs : List (TsKey × Ts)), Ts.substFields σ fs = fs.map fun x => (x.1, Ts.subst σ x.2)
  | [] => by simp [Ts.substFields]
  | (k, t) :: fs => by simp [Ts.substFields, substFields_map σ fs]

theorem substList_length (σ : List (Str × Ts)) (ts : List Ts) : (substList σ ts).length = ts.length := by
  rw [substList_eq_map, List.length_map]

theorem substList_append (σ : List (Str × Ts)) (a b : List Ts) : substList σ (a ++ b) = substList σ a ++ substList σ b := by
  simp [substList_eq_map]

mutual
theorem subst_nil : ∀ (t : Ts), Ts.subst [] t = t
  | .number | .bigint | .string | .boolean | .null | .never | .lit _ | .neverArray | .emptyRecord | .raw _ | .param _ => rfl
  | .ref n args => congrArg (Ts.ref n) (substList_nil args)
  | .array t => congrArg Ts.array (subst_nil t)
  | .tuple ts => congrArg Ts.tuple (substList_nil ts)
  | .obj fs => congrArg Ts.obj (substFields_nil fs)
  | .mapped k v => by simp only [Ts.subst, subst_nil k, subst_nil v]
  | .union ts => congrArg Ts.union (substList_nil ts)
  | .inter ts => congrArg Ts.inter (substList_nil ts)
  | .paren t => congrArg Ts.paren (subst_nil t)
theorem substList_nil : ∀ (ts : List Ts), Ts.substList [] ts = ts
  | [] => rfl
  | t :: ts => by simp only [Ts.substList, subst_nil t, substList_nil ts]
theorem substFields_nil : ∀ (fs : List (TsKey × Ts)), Ts.substFields [] fs = fs
  | [] => rfl
  | (k, t) :: fs => by simp only [Ts.substFields, subst_nil t, substFields_nil fs]
end

end TsRs
