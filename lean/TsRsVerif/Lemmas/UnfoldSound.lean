import TsRsVerif.Lemmas.Unfold
/-! The two directions of `unfold_same_values`: induction on the derivation of membership (`Member.hered`); the statement
quantifies over ALL unfoldings of the type, so a chain of head unfoldings is absorbed by the induction hypothesis of the `ref`
rule. In every other case the unfolding is a congruence step (`fwd_congr`, `bwd_congr`), and the induction hypotheses for
the parts are carried along `UnfL` / `UnfF` to the parts of the other side. -/
namespace TsRs
open Ts

theorem unfF_names {D : Decls} {k : Str} : ∀ {fs fs' : List (TsKey × Ts)}, UnfF D fs fs' →
    ((∃ f ∈ fs', f.1.name = k) ↔ ∃ f ∈ fs, f.1.name = k)
  | _, _, .nil => Iff.rfl
  | _, _, .cons _ us => by simp only [List.mem_cons, or_and_right, exists_or, exists_eq_left, unfF_names us]

/-! what holds of the parts on one side holds of the parts on the other, given the step for one part (last argument) -/

theorem UnfL.zipP {D : Decls} {Q Q' : Ts → JVal → Prop} : ∀ {ts ts' : List Ts} {js : List JVal}, UnfL D ts ts' → ZipP Q ts js →
    (∀ {t t' j}, Unf D t t' → Q t j → Q' t' j) → ZipP Q' ts' js
  | _, _, [], .nil, _, _ => trivial
  | _, _, _ :: _, .cons u us, hz, h => ⟨h u hz.1, us.zipP hz.2 h⟩

theorem UnfL.zipP_back {D : Decls} {Q Q' : Ts → JVal → Prop} : ∀ {ts ts' : List Ts} {js : List JVal}, UnfL D ts ts' → ZipP Q ts' js →
    (∀ {t t' j}, Unf D t t' → Q t' j → Q' t j) → ZipP Q' ts js
  | _, _, [], .nil, _, _ => trivial
  | _, _, _ :: _, .cons u us, hz, h => ⟨h u hz.1, us.zipP_back hz.2 h⟩

theorem UnfF.fieldsP {D : Decls} {Q Q' : Ts → JVal → Prop} {kvs : List (Str × JVal)} : ∀ {fs fs' : List (TsKey × Ts)}, UnfF D fs fs' →
    FieldsP Q fs kvs → (∀ {t t' j}, Unf D t t' → Q t j → Q' t' j) → FieldsP Q' fs' kvs
  | _, _, .nil, _, _ => nofun
  | _, _, .cons u us, hf, h =>
    have hf := List.forall_mem_cons.1 hf
    List.forall_mem_cons.2 ⟨hf.1.imp (fun ⟨v, hl, q⟩ => ⟨v, hl, h u q⟩) id, us.fieldsP hf.2 h⟩

theorem UnfF.fieldsP_back {D : Decls} {Q Q' : Ts → JVal → Prop} {kvs : List (Str × JVal)} : ∀ {fs fs' : List (TsKey × Ts)}, UnfF D fs fs' →
    FieldsP Q fs' kvs → (∀ {t t' j}, Unf D t t' → Q t' j → Q' t j) → FieldsP Q' fs kvs
  | _, _, .nil, _, _ => nofun
  | _, _, .cons u us, hf, h =>
    have hf := List.forall_mem_cons.1 hf
    List.forall_mem_cons.2 ⟨hf.1.imp (fun ⟨v, hl, q⟩ => ⟨v, hl, h u q⟩) id, us.fieldsP_back hf.2 h⟩

/-! the arms of a union: `k` is the induction hypothesis for the arm that has the value -/

theorem arms_fwd {D D' : Decls} {t0 : Ts} {j : JVal} (k : ∀ {t' : Ts}, Unf D t0 t' → Member D' t' j) :
    ∀ {ts out : List Ts}, UnfArms D ts out → t0 ∈ ts → Member D' (.union out) j
  | _, _, .nil, h => nomatch h
  | _, _, .one u us, h => by
    rcases List.mem_cons.1 h with rfl | h
    · exact .union (List.mem_cons_self ..) (k u)
    · exact member_union_mono (fun _ => List.mem_cons_of_mem _) (arms_fwd k us h)
  | _, _, .splice hh ul us, h => by
    rcases List.mem_cons.1 h with rfl | h
    · exact member_union_mono (fun _ => List.mem_append_left _) (k (.mk hh (.plain (.union ul))))
    · exact member_union_mono (fun _ => List.mem_append_right _) (arms_fwd k us h)

theorem arms_bwd {D : Decls} {x' : Ts} {j : JVal} (k : ∀ {t : Ts}, Unf D t x' → Member D t j) :
    ∀ {ts out : List Ts}, UnfArms D ts out → x' ∈ out → Member D (.union ts) j
  | _, _, .nil, h => nomatch h
  | _, _, .one u us, h => by
    rcases List.mem_cons.1 h with rfl | h
    · exact .union (List.mem_cons_self ..) (k u)
    · exact member_union_mono (fun _ => List.mem_cons_of_mem _) (arms_bwd k us h)
  | _, _, .splice hh inner us, h => by
    rcases List.mem_append.1 h with h | h
    · exact .union (List.mem_cons_self ..) ((headUnf_member hh j).2 (arms_bwd k inner h))
    · exact member_union_mono (fun _ => List.mem_cons_of_mem _) (arms_bwd k us h)

theorem unfP_member {D D' : Decls} {s t' : Ts} {j : JVal} (h : ∀ {c}, UnfC D s c → Member D' c j) : UnfP D s t' → Member D' t' j
  | .plain c => h c
  | .paren c => .paren (h c)

/-- forward: a type whose head is neither a reference nor a union unfolds only below its head -/
theorem fwd_congr {D D' : Decls} {t t' : Ts} {j : JVal} (hr : ∀ n a, t ≠ .ref n a) (hu : ∀ xs, t ≠ .union xs)
    (h : ∀ {c}, UnfC D t c → Member D' c j) (u : Unf D t t') : Member D' t' j := by
  obtain ⟨hd, p⟩ := u
  cases hd with
  | refl => exact unfP_member h p
  | step => exact absurd rfl (hr _ _)
  | single => exact absurd rfl (hu _)

theorem fwd_leaf {D D' : Decls} {t t' : Ts} {j : JVal} (hl : isLeaf t = true) (m : Member D' t j) : Unf D t t' → Member D' t' j :=
  fwd_congr (by rintro _ _ rfl; cases hl) (by rintro _ rfl; cases hl) fun c => by cases c <;> first | exact m | cases hl

/-- backward: an unfolding whose result is not parenthesised is a head unfolding, then a congruence step -/
theorem bwd_congr {D : Decls} {t t' : Ts} {j : JVal} (hp : ∀ x, t' ≠ .paren x) (h : ∀ {s}, UnfC D s t' → Member D s j)
    (u : Unf D t t') : Member D t j := by
  obtain ⟨hd, p⟩ := u
  cases p with
  | plain c => exact (headUnf_member hd j).2 (h c)
  | paren c => exact absurd rfl (hp _)

theorem bwd_leaf {D : Decls} {t t' : Ts} {j : JVal} (hl : isLeaf t' = true) (m : Member D t' j) : Unf D t t' → Member D t j :=
  bwd_congr (by rintro _ rfl; cases hl) fun c => by cases c <;> first | exact m | cases hl

theorem fwd {D D' : Decls} (hw : WSD D) (hd : DeclsUnf D D') : ∀ {t : Ts} {j : JVal}, Member D t j →
    ∀ {t' : Ts}, Unf D t t' → Member D' t' j := by
  apply Member.hered (P := fun t j => ∀ {t' : Ts}, Unf D t t' → Member D' t' j)
  case numberInt => exact fun i => fwd_leaf rfl (.numberInt i)
  case numberFloat => exact fun r => fwd_leaf rfl (.numberFloat r)
  case bigint => exact fun i => fwd_leaf rfl (.bigint i)
  case string => exact fun s => fwd_leaf rfl (.string s)
  case boolean => exact fun b => fwd_leaf rfl (.boolean b)
  case null => exact fwd_leaf rfl .null
  case lit => exact fun s => fwd_leaf rfl (.lit s)
  case neverArray => exact fwd_leaf rfl .neverArray
  case emptyRecord => exact fwd_leaf rfl .emptyRecord
  case ref =>
    intro n args ps b j hl _ ih t' u
    obtain ⟨h, p⟩ := u
    cases h with
    | step hl2 _ h' => cases hl.symm.trans hl2; exact ih (.mk h' p)
    | refl =>
      obtain ⟨b', hl', ub⟩ := hd.fwd n ps b hl
      refine unfP_member (fun c => ?_) p
      cases c with
      | leaf hlf => cases hlf
      | refSame => exact .ref hl' (ih (unf_subst hw _ ub))
  case array =>
    refine fun h => fwd_congr nofun nofun fun c => ?_
    cases c with
    | leaf hlf => cases hlf
    | array u => exact .array (memberAll_iff.2 fun j hj => (h j hj).2 u)
  case tuple =>
    refine fun h => fwd_congr nofun nofun fun c => ?_
    cases c with
    | leaf hlf => cases hlf
    | tuple ul => exact .tuple (memberZip_iff.2 (ul.zipP h fun u q => q.2 u))
  case obj =>
    refine fun h hk => fwd_congr nofun nofun fun c => ?_
    cases c with
    | leaf hlf => cases hlf
    | obj uf => exact .obj (memberFields_iff.2 (uf.fieldsP h fun u q => q.2 u)) fun k hkm => (unfF_names uf).2 (hk k hkm)
  case mapped =>
    refine fun h => fwd_congr nofun nofun fun c => ?_
    cases c with
    | leaf hlf => cases hlf
    | mapped uk uv => exact .mapped (memberMap_iff.2 (h.imp (fun _ q => q.2 uk) fun _ q => q.2 uv))
  case union =>
    intro ts t0 j hmem _ ih t' u
    obtain ⟨h, p⟩ := u
    cases h with
    | single h' => cases List.mem_singleton.1 hmem; exact ih (.mk h' p)
    | refl =>
      refine unfP_member (fun c => ?_) p
      cases c with
      | leaf hlf => cases hlf
      | union arms => exact arms_fwd ih arms hmem
  case interNil =>
    refine fwd_congr nofun nofun fun c => ?_
    cases c with
    | leaf hlf => cases hlf
    | inter ul => cases ul; exact .interNil
  case interObj =>
    refine fun hperm _ _ hne ih1 ih2 => fwd_congr nofun nofun fun c => ?_
    cases c with
    | leaf hlf => cases hlf
    | inter ul =>
      cases ul with
      | cons u1 us =>
        refine .interObj hperm (ih1 u1) (ih2 (UnfC.inter us).unf) fun e => ?_
        subst e; cases us; exact hne rfl
  case interOne =>
    refine fun _ ih => fwd_congr nofun nofun fun c => ?_
    cases c with
    | leaf hlf => cases hlf
    | inter ul => cases ul with | cons u1 us => cases us; exact .interOne (ih u1)
  case interVal =>
    refine fun hno _ _ ih1 ih2 => fwd_congr nofun nofun fun c => ?_
    cases c with
    | leaf hlf => cases hlf
    | inter ul => cases ul with | cons u1 us => exact .interVal hno (ih1 u1) (ih2 (UnfC.inter us).unf)
  case paren =>
    refine fun _ ih => fwd_congr nofun nofun fun c => ?_
    cases c with
    | leaf hlf => cases hlf
    | parenC u => exact .paren (ih u)

theorem fwdAll {D D' : Decls} (hw : WSD D) (hd : DeclsUnf D D') : ∀ {t : Ts} {js : List JVal}, MemberAll D t js → ∀ {t' : Ts}, Unf D t t' → MemberAll D' t' js :=
  fun m _ u => m.imp fun _ mj => fwd hw hd mj u
theorem fwdZip {D D' : Decls} (hw : WSD D) (hd : DeclsUnf D D') : ∀ {ts : List Ts} {js : List JVal}, MemberZip D ts js → ∀ {ts' : List Ts}, UnfL D ts ts' → MemberZip D' ts' js :=
  fun m _ ul => memberZip_iff.2 (ul.zipP m.zipP fun u mj => fwd hw hd mj u)
theorem fwdMap {D D' : Decls} (hw : WSD D) (hd : DeclsUnf D D') : ∀ {k v : Ts} {kvs : List (Str × JVal)}, MemberMap D k v kvs →
    ∀ {k' v' : Ts}, Unf D k k' → Unf D v v' → MemberMap D' k' v' kvs :=
  fun m _ _ uk uv => memberMap_iff.2 ((memberMap_iff.1 m).imp (fun _ mj => fwd hw hd mj uk) fun _ mj => fwd hw hd mj uv)
theorem fwdFields {D D' : Decls} (hw : WSD D) (hd : DeclsUnf D D') : ∀ {fs : List (TsKey × Ts)} {kvs : List (Str × JVal)}, MemberFields D fs kvs →
    ∀ {fs' : List (TsKey × Ts)}, UnfF D fs fs' → MemberFields D' fs' kvs :=
  fun m _ uf => memberFields_iff.2 (uf.fieldsP m.fieldsP fun u mj => fwd hw hd mj u)

theorem bwd {D D' : Decls} (hw : WSD D) (hd : DeclsUnf D D') : ∀ {t' : Ts} {j : JVal}, Member D' t' j → ∀ {t : Ts}, Unf D t t' → Member D t j := by
  apply Member.hered (P := fun t' j => ∀ {t : Ts}, Unf D t t' → Member D t j)
  case numberInt => exact fun i => bwd_leaf rfl (.numberInt i)
  case numberFloat => exact fun r => bwd_leaf rfl (.numberFloat r)
  case bigint => exact fun i => bwd_leaf rfl (.bigint i)
  case string => exact fun s => bwd_leaf rfl (.string s)
  case boolean => exact fun b => bwd_leaf rfl (.boolean b)
  case null => exact bwd_leaf rfl .null
  case lit => exact fun s => bwd_leaf rfl (.lit s)
  case neverArray => exact bwd_leaf rfl .neverArray
  case emptyRecord => exact bwd_leaf rfl .emptyRecord
  case ref =>
    refine fun {n args ps b'} _ hl' _ ih => bwd_congr nofun fun c => ?_
    cases c with
    | leaf hlf => cases hlf
    | refSame =>
      obtain ⟨b, hl, ub⟩ := hd.bwd n ps b' hl'
      exact .ref hl (ih (unf_subst hw _ ub))
  case array =>
    refine fun h => bwd_congr nofun fun c => ?_
    cases c with
    | leaf hlf => cases hlf
    | array u => exact .array (memberAll_iff.2 fun j hj => (h j hj).2 u)
  case tuple =>
    refine fun h => bwd_congr nofun fun c => ?_
    cases c with
    | leaf hlf => cases hlf
    | tuple ul => exact .tuple (memberZip_iff.2 (ul.zipP_back h fun u q => q.2 u))
  case obj =>
    refine fun h hk => bwd_congr nofun fun c => ?_
    cases c with
    | leaf hlf => cases hlf
    | obj uf => exact .obj (memberFields_iff.2 (uf.fieldsP_back h fun u q => q.2 u)) fun k hkm => (unfF_names uf).1 (hk k hkm)
  case mapped =>
    refine fun h => bwd_congr nofun fun c => ?_
    cases c with
    | leaf hlf => cases hlf
    | mapped uk uv => exact .mapped (memberMap_iff.2 (h.imp (fun _ q => q.2 uk) fun _ q => q.2 uv))
  case union =>
    refine fun hmem _ ih => bwd_congr nofun fun c => ?_
    cases c with
    | leaf hlf => cases hlf
    | union arms => exact arms_bwd ih arms hmem
  case interNil =>
    refine bwd_congr nofun fun c => ?_
    cases c with
    | leaf hlf => cases hlf
    | inter ul => cases ul; exact .interNil
  case interObj =>
    refine fun hperm _ _ hne ih1 ih2 => bwd_congr nofun fun c => ?_
    cases c with
    | leaf hlf => cases hlf
    | inter ul =>
      cases ul with
      | cons u1 us =>
        refine .interObj hperm (ih1 u1) (ih2 (UnfC.inter us).unf) fun e => ?_
        subst e; cases us; exact hne rfl
  case interOne =>
    refine fun _ ih => bwd_congr nofun fun c => ?_
    cases c with
    | leaf hlf => cases hlf
    | inter ul => cases ul with | cons u1 us => cases us; exact .interOne (ih u1)
  case interVal =>
    refine fun hno _ _ ih1 ih2 => bwd_congr nofun fun c => ?_
    cases c with
    | leaf hlf => cases hlf
    | inter ul => cases ul with | cons u1 us => exact .interVal hno (ih1 u1) (ih2 (UnfC.inter us).unf)
  case paren =>
    intro x' j _ ih t u
    obtain ⟨h, p⟩ := u
    refine (headUnf_member h _).2 ?_
    cases p with
    | plain c => cases c with
      | leaf hlf => cases hlf
      | parenC u' => exact .paren (ih u')
    | paren c => exact ih c.unf

theorem bwdAll {D D' : Decls} (hw : WSD D) (hd : DeclsUnf D D') : ∀ {t' : Ts} {js : List JVal}, MemberAll D' t' js → ∀ {t : Ts}, Unf D t t' → MemberAll D t js :=
  fun m _ u => m.imp fun _ mj => bwd hw hd mj u
theorem bwdZip {D D' : Decls} (hw : WSD D) (hd : DeclsUnf D D') : ∀ {ts' : List Ts} {js : List JVal}, MemberZip D' ts' js → ∀ {ts : List Ts}, UnfL D ts ts' → MemberZip D ts js :=
  fun m _ ul => memberZip_iff.2 (ul.zipP_back m.zipP fun u mj => bwd hw hd mj u)
theorem bwdMap {D D' : Decls} (hw : WSD D) (hd : DeclsUnf D D') : ∀ {k' v' : Ts} {kvs : List (Str × JVal)}, MemberMap D' k' v' kvs →
    ∀ {k v : Ts}, Unf D k k' → Unf D v v' → MemberMap D k v kvs :=
  fun m _ _ uk uv => memberMap_iff.2 ((memberMap_iff.1 m).imp (fun _ mj => bwd hw hd mj uk) fun _ mj => bwd hw hd mj uv)
theorem bwdFields {D D' : Decls} (hw : WSD D) (hd : DeclsUnf D D') : ∀ {fs' : List (TsKey × Ts)} {kvs : List (Str × JVal)}, MemberFields D' fs' kvs →
    ∀ {fs : List (TsKey × Ts)}, UnfF D fs fs' → MemberFields D fs kvs :=
  fun m _ uf => memberFields_iff.2 (uf.fieldsP_back m.fieldsP fun u mj => bwd hw hd mj u)

/-- **unfolding references never changes meaning**: if every body of `D'` is an unfolding (any number of references, at any
depth, parenthesised or not, unions spliced) of the body `D` declares under the same name, then every type and each of its
unfoldings have exactly the same JSON values, under `D` and `D'` respectively -/
theorem unfold_same_values {D D' : Decls} (hw : WSD D) (hd : DeclsUnf D D') {t t' : Ts} (u : Unf D t t') (j : JVal) :
    Member D t j ↔ Member D' t' j :=
  ⟨fun m => fwd hw hd m u, fun m => bwd hw hd m u⟩

end TsRs
