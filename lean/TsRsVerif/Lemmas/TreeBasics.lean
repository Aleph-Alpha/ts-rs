import TsRsVerif.Model.TreeDerive
import TsRsVerif.Lemmas.SubstLemmas
import TsRsVerif.Lemmas.TsSubst
/-! The tree-level derive (`Model/TreeDerive.lean`), function by function, in the form its four readers use it — serde's writer
(`TreeSound`, C01), serde's reader (`DeComplete2`, C02), substitution of type arguments (`DeInst`, C07) and the recorded
dependencies (`DepsLemmas`, C03): the three list functions are one (`keepM`, with its cons-equation and its induction), a named
field prints one property (`fieldTs`, `fieldTy_cases`, `FieldOkN`), and `structBody`, `variantTs`, `itemBody` succeed in exactly
the cases of `BodyCase`, `VariantCase` (`structBody_eq_some`, `variantTs_eq_some`, `itemBody_eq_some`). No proof elsewhere unfolds
`fieldsTs`, `tupleTs`, `variantsTs`, `structBody`, `variantTs` or `itemBody`. -/
namespace TsRs
open Ts Tree

theorem nameN_eq_some {env : Env} {id : Str} {targs : List Ts} {T : Ts} :
    nameN env id targs = some T ↔ ∃ it, env.find id = some it ∧ targs.length = it.generics.length ∧ T = .ref (Derive.tsName it) targs := by
  unfold nameN
  cases env.find id with
  | none => simp
  | some it =>
    simp only [Option.bind_some, Option.some.injEq, exists_eq_left']
    split <;> simp_all [eq_comm]

/-- keep the elements that are not skipped and map them, failing if one fails (what `fieldsTs`, `tupleTs`, `variantsTs` do) -/
def keepM {α β : Type} (skip : α → Bool) (g : α → Option β) : List α → Option (List β)
  | [] => some []
  | x :: xs => (keepM skip g xs).bind fun rest => if skip x then some rest else (g x).bind fun y => some (y :: rest)

section
variable {α β α' β' : Type} {skip : α → Bool} {g : α → Option β}

theorem keepM_cons {x : α} {xs : List α} {ys : List β} : keepM skip g (x :: xs) = some ys ↔
    ∃ rest, keepM skip g xs = some rest ∧ if skip x then ys = rest else ∃ y, g x = some y ∧ ys = y :: rest := by
  simp only [keepM, Option.bind_eq_some_iff]
  refine exists_congr fun rest => and_congr_right fun _ => ?_
  split
  · exact ⟨fun h => (Option.some.inj h).symm, fun h => h ▸ rfl⟩
  · exact Option.bind_eq_some_iff.trans (exists_congr fun y => and_congr_right fun _ => by rw [Option.some.injEq, eq_comm])

theorem keepM_induct {motive : List α → List β → Prop} (nil : motive [] [])
    (skipped : ∀ {x xs ys}, skip x = true → keepM skip g xs = some ys → motive xs ys → motive (x :: xs) ys)
    (kept : ∀ {x xs y ys}, skip x = false → g x = some y → keepM skip g xs = some ys → motive xs ys → motive (x :: xs) (y :: ys)) :
    ∀ {l : List α} {ys : List β}, keepM skip g l = some ys → motive l ys
  | [], _, h => by cases h; exact nil
  | x :: xs, ys, h => by
    obtain ⟨rest, hr, h⟩ := keepM_cons.mp h
    split at h
    · subst h; exact skipped ‹_› hr (keepM_induct nil skipped kept hr)
    · obtain ⟨y, hy, rfl⟩ := h
      exact kept (Bool.eq_false_iff.mpr ‹_›) hy hr (keepM_induct nil skipped kept hr)

theorem keepM_mem {l : List α} {ys : List β} (h : keepM skip g l = some ys) (y : β) : y ∈ ys ↔ ∃ x ∈ l, skip x = false ∧ g x = some y := by
  refine keepM_induct (motive := fun l ys => y ∈ ys ↔ ∃ x ∈ l, skip x = false ∧ g x = some y) (by simp) ?_ ?_ h
  · intro x xs ys hs _ ih; simp [ih, hs]
  · intro x xs y' ys hs hy _ ih
    simp only [List.mem_cons, ih, exists_eq_or_imp, hs, hy, true_and, Option.some.injEq]
    exact or_congr_left eq_comm

theorem keepM_defined {l : List α} {ys : List β} (h : keepM skip g l = some ys) : ∀ x ∈ l, skip x = false → ∃ y, g x = some y ∧ y ∈ ys := by
  have hd : ∀ x ∈ l, skip x = false → ∃ y, g x = some y := by
    refine keepM_induct (motive := fun l _ => ∀ x ∈ l, skip x = false → ∃ y, g x = some y) (by simp) ?_ ?_ h
    · intro x xs ys hs _ ih
      exact List.forall_mem_cons.mpr ⟨fun hs' => Bool.noConfusion (hs.symm.trans hs'), ih⟩
    · intro x xs y ys _ hy _ ih
      exact List.forall_mem_cons.mpr ⟨fun _ => ⟨y, hy⟩, ih⟩
  exact fun x hx hs => let ⟨y, hy⟩ := hd x hx hs; ⟨y, hy, (keepM_mem h y).mpr ⟨x, hx, hs, hy⟩⟩

/-- mapping the elements and the results: if `g'` on the image is `S` of `g`, element by element -/
theorem keepM_map {skip' : α' → Bool} {g' : α' → Option β'} (F : α → α') (S : β → β') (hs : ∀ x, skip' (F x) = skip x)
    {l : List α} {ys : List β} (h : keepM skip g l = some ys) :
    (∀ x ∈ l, skip x = false → ∀ y, g x = some y → g' (F x) = some (S y)) → keepM skip' g' (l.map F) = some (ys.map S) := by
  refine keepM_induct (motive := fun l ys => (∀ x ∈ l, skip x = false → ∀ y, g x = some y → g' (F x) = some (S y)) →
    keepM skip' g' (l.map F) = some (ys.map S)) (fun _ => rfl) ?_ ?_ h
  · intro x xs ys hx _ ih hg
    exact keepM_cons.mpr ⟨_, ih fun x' hx' => hg x' (List.mem_cons_of_mem _ hx'), by simp [hs, hx]⟩
  · intro x xs y ys hx hy _ ih hg
    exact keepM_cons.mpr ⟨_, ih fun x' hx' => hg x' (List.mem_cons_of_mem _ hx'), by simp [hs, hx, hg x List.mem_cons_self hx y hy]⟩
end

theorem tupleTs_eq (cfg : Cfg) (env : Env) : ∀ fs, tupleTs cfg env fs = keepM (·.attr.skip) (fun f => tyTs cfg env f.ty) fs
  | [] => rfl
  | f :: fs => by
    show (tupleTs cfg env fs).bind _ = _
    rw [tupleTs_eq cfg env fs]; rfl

theorem variantsTs_eq (cfg : Cfg) (env : Env) (it : Item) : ∀ vs, variantsTs cfg env it vs = keepM (·.attr.skip) (variantTs cfg env it) vs
  | [] => rfl
  | v :: vs => by
    show (variantsTs cfg env it vs).bind _ = _
    rw [variantsTs_eq cfg env it vs]; rfl

/-- the type a named field is printed with: its own, or the one under `Option` where the `| null` is dropped -/
def fieldTy (of : Opt) (f : Field) : RTy := if (optMode of f).2 then f.ty else Derive.optionInner f.ty

def fieldTs (cfg : Cfg) (env : Env) (ra : Option Rule) (of : Opt) (f : Field) : Option (TsKey × Ts) :=
  (tyTs cfg env (fieldTy of f)).map fun t => ({ name := fieldKey cfg ra f, optional := (optMode of f).1 }, t)

theorem fieldsTs_eq (cfg : Cfg) (env : Env) (ra : Option Rule) (of : Opt) :
    ∀ fs, fieldsTs cfg env ra of fs = keepM (·.attr.skip) (fieldTs cfg env ra of) fs
  | [] => rfl
  | f :: fs => by
    show (fieldsTs cfg env ra of fs).bind _ = _
    rw [fieldsTs_eq cfg env ra of fs]
    simp only [keepM, fieldTs, fieldTy]
    congr 1; funext rest
    split
    · rfl
    · cases tyTs cfg env (if (optMode of f).2 then f.ty else Derive.optionInner f.ty) <;> rfl

theorem fieldTy_cases (of : Opt) (f : Field) :
    fieldTy of f = f.ty ∨ ∃ u, f.ty = .option u ∧ fieldTy of f = u ∧ (optMode of f).1 = true ∧ (optMode of f).2 = false := by
  unfold fieldTy
  cases h2 : (optMode of f).2 with
  | true => exact .inl rfl
  | false =>
    cases hty : f.ty with
    | option u =>
      refine .inr ⟨u, rfl, rfl, ?_, rfl⟩
      revert h2
      unfold optMode
      cases of <;> cases f.attr.optional <;> simp [hty, Derive.isOption]
    | _ => exact .inl rfl

/-- what the fragment asks of a named field that is not skipped (`fieldOkN`), clause by clause -/
structure FieldOkN (cfg : Cfg) (ra : Option Rule) (of : Opt) (f : Field) : Prop where
  inline : f.attr.inline = false
  flatten : f.attr.flatten = false
  typeAs : f.attr.typeAs = none
  typeOverride : f.attr.typeOverride = none
  /-- C09: the derive and serde rename the field alike -/
  key : fieldKey cfg ra f = Serde.fieldKey cfg ra f
  /-- a property serde may leave out is written `name?:` -/
  omitted : f.attr.skipSerIfNone = false ∨ (optMode of f).1 = true
  /-- only an `Option` is written `name?:` -/
  option : (optMode of f).1 = false ∨ Derive.isOption f.ty = true
  /-- `name?: T` without `| null`: serde must leave `None` out -/
  noNull : ((optMode of f).1 = true → (optMode of f).2 = true) ∨ f.attr.skipSerIfNone = true
  /-- under `optional_fields` the type is not a bare parameter (whether it is an `Option` is not known before the arguments are) -/
  param : of = .no ∨ isParam f.ty = false

theorem fieldOkN_iff {cfg : Cfg} {ra : Option Rule} {of : Opt} {f : Field} (hsk : f.attr.skip = false) :
    fieldOkN cfg ra of f = true ↔ FieldOkN cfg ra of f := by
  simp only [fieldOkN, hsk, Bool.false_or, Bool.and_eq_true, Bool.not_eq_true', Option.isNone_iff_eq_none, beq_iff_eq, Bool.or_eq_true,
    Bool.and_eq_false_imp, Bool.not_eq_false']
  exact ⟨fun ⟨⟨⟨⟨h1, h2⟩, h3⟩, h4⟩, ⟨⟨⟨h5, h6⟩, h7⟩, h8⟩, h9⟩ => ⟨h1, h2, h3, h4, h5, h6, h7, h8, h9⟩,
    fun ⟨h1, h2, h3, h4, h5, h6, h7, h8, h9⟩ => ⟨⟨⟨⟨h1, h2⟩, h3⟩, h4⟩, ⟨⟨⟨h5, h6⟩, h7⟩, h8⟩, h9⟩⟩

/-- the bodies `structBody` prints, the newtype apart (which is transparent: `structBody_eq_some`) -/
inductive BodyCase (cfg : Cfg) (env : Env) (ra : Option Rule) (of : Opt) (tag : Option (Str × Str)) : Shape → List Field → Ts → Prop
  | unit {fields} : BodyCase cfg env ra of tag .unit fields .null
  | empty : tag = none → BodyCase cfg env ra of tag .named [] .emptyRecord
  | named {fields fs} : (fields = [] → tag ≠ none) → fieldsTs cfg env ra of fields = some fs →
      BodyCase cfg env ra of tag .named fields (.obj ((tag.toList.map fun tn => ({ name := tn.1 }, .lit tn.2)) ++ fs))
  | never : BodyCase cfg env ra of tag .tuple [] .neverArray
  | tuple {f1 f2 rest ts} : tupleTs cfg env (f1 :: f2 :: rest) = some ts → BodyCase cfg env ra of tag .tuple (f1 :: f2 :: rest) (.tuple ts)

theorem BodyCase.head {cfg : Cfg} {env : Env} {ra : Option Rule} {of : Opt} {tag : Option (Str × Str)} {shape : Shape} {fields : List Field}
    {T : Ts} (h : BodyCase cfg env ra of tag shape fields T) :
    (match T with | .null | .emptyRecord | .obj _ | .neverArray | .tuple _ => True | _ => False) := by cases h <;> trivial

theorem structBody_eq_some {cfg : Cfg} {env : Env} {ra : Option Rule} {of : Opt} {tag : Option (Str × Str)} {shape : Shape}
    {fields : List Field} {T : Ts} : structBody cfg env ra of tag shape fields = some T ↔
    (∃ f, shape = .tuple ∧ fields = [f] ∧ (if f.attr.skip then some .null else tyTs cfg env f.ty) = some T) ∨
      BodyCase cfg env ra of tag shape fields T := by
  constructor
  · intro h
    cases shape with
    | unit => cases h; exact .inr .unit
    | named =>
      simp only [structBody] at h
      split at h
      · rename_i he
        cases h
        simp only [Bool.and_eq_true, List.isEmpty_iff, Option.isNone_iff_eq_none] at he
        rw [he.1]
        exact .inr (.empty he.2)
      · rename_i he
        obtain ⟨fs, hfs, h⟩ := Option.bind_eq_some_iff.mp h
        cases h
        have := BodyCase.named (tag := tag) (fun h1 h2 => he (by simp [h1, h2])) hfs
        rcases tag with _ | ⟨t, n⟩ <;> exact .inr this
    | tuple =>
      match fields, h with
      | [], h => cases h; exact .inr .never
      | [f], h => exact .inl ⟨f, rfl, rfl, h⟩
      | _ :: _ :: _, h =>
        obtain ⟨ts, hts, rfl⟩ := Option.map_eq_some_iff.mp (show (tupleTs cfg env _).map Ts.tuple = some T from h)
        exact .inr (.tuple hts)
  · rintro (⟨f, rfl, rfl, h⟩ | h)
    · exact h
    · cases h with
      | unit => rfl
      | empty h => simp [structBody, h]
      | named hne hfs =>
        have : (fields.isEmpty && tag.isNone) = false := by
          cases fields <;> cases tag <;> simp_all
        rcases tag with _ | ⟨t, n⟩ <;> simp only [structBody, this, Bool.false_eq_true, if_false, hfs, bind, Option.bind, pure] <;> rfl
      | never => rfl
      | tuple hts => simp [structBody, hts]

theorem unitLike_iff (v : Variant) :
    v.unitLike = true ↔ v.shape = .unit ∨ ∃ f, v.shape = .tuple ∧ v.fields = [f] ∧ f.attr.skip = true := by
  unfold Variant.unitLike
  rcases v.fields with _ | ⟨f, _ | _⟩ <;> simp

theorem newtype_kept {v : Variant} (hu : v.unitLike = false) {f : Field} (hs : v.shape = .tuple) (hf : v.fields = [f]) :
    f.attr.skip = false :=
  Bool.eq_false_iff.mpr fun h => Bool.eq_false_iff.mp hu ((unitLike_iff v).mpr (.inr ⟨f, hs, hf, h⟩))

/-- the arms `variantTs` prints for a variant that is not `untagged` (such a one is printed as its body: `variantTs_eq_some`) -/
inductive VariantCase (cfg : Cfg) (env : Env) (it : Item) (var : Variant) : Ts → Prop
  | extUnit : Derive.tagged it.attr = .externally → var.unitLike = true →
      VariantCase cfg env it var (.lit (Derive.variantTsName cfg it.attr.renameAll var))
  | ext {C} : Derive.tagged it.attr = .externally → var.unitLike = false →
      structBody cfg env (renameAllT it var) .no none var.shape var.fields = some C →
      VariantCase cfg env it var (.obj [({ name := Derive.variantTsName cfg it.attr.renameAll var }, C)])
  | adjUnit {t c} : Derive.tagged it.attr = .adjacently t c → var.unitLike = true →
      VariantCase cfg env it var (.obj [({ name := t }, .lit (Derive.variantTsName cfg it.attr.renameAll var))])
  | adj {t c C} : Derive.tagged it.attr = .adjacently t c → var.unitLike = false →
      structBody cfg env (renameAllT it var) .no none var.shape var.fields = some C →
      VariantCase cfg env it var (.obj [({ name := t }, .lit (Derive.variantTsName cfg it.attr.renameAll var)), ({ name := c }, C)])
  | intUnit {t} : Derive.tagged it.attr = .internally t → var.unitLike = true →
      VariantCase cfg env it var (.obj [({ name := t }, .lit (Derive.variantTsName cfg it.attr.renameAll var))])
  | int {t fs} : Derive.tagged it.attr = .internally t → var.unitLike = false → var.shape = .named →
      fieldsTs cfg env (renameAllT it var) .no var.fields = some fs →
      VariantCase cfg env it var (.obj (({ name := t }, .lit (Derive.variantTsName cfg it.attr.renameAll var)) :: fs))

theorem VariantCase.head {cfg : Cfg} {env : Env} {it : Item} {var : Variant} {T : Ts} (h : VariantCase cfg env it var T) :
    (match T with | .lit _ | .obj _ => True | _ => False) := by cases h <;> trivial

theorem tagged_untagged (a : ContainerAttr) : Derive.tagged a = .untagged ↔ a.untagged = true := by
  unfold Derive.tagged
  cases a.untagged <;> cases a.tag <;> cases a.content <;> simp

theorem tg_untagged {it : Item} {var : Variant} (h : (var.attr.untagged || it.attr.untagged) = true) :
    (if var.attr.untagged then Derive.Tagged.untagged else Derive.tagged it.attr) = .untagged := by
  cases hv : var.attr.untagged with
  | true => rfl
  | false => simpa [hv, tagged_untagged] using h

theorem variantTs_eq_some {cfg : Cfg} {env : Env} {it : Item} {var : Variant} {A : Ts} : variantTs cfg env it var = some A ↔
    ((var.attr.untagged || it.attr.untagged) = true ∧ structBody cfg env (renameAllT it var) .no none var.shape var.fields = some A) ∨
      ((var.attr.untagged || it.attr.untagged) = false ∧ VariantCase cfg env it var A) := by
  unfold variantTs
  constructor
  · intro h
    cases hun : (var.attr.untagged || it.attr.untagged) with
    | true => exact .inl ⟨rfl, by simpa only [tg_untagged hun] using h⟩
    | false =>
      obtain ⟨hvu, hiu⟩ := Bool.or_eq_false_iff.mp hun
      simp only [hvu, Bool.false_eq_true, if_false] at h
      refine .inr ⟨rfl, ?_⟩
      cases htg : Derive.tagged it.attr with
      | untagged => rw [(tagged_untagged _).mp htg] at hiu; cases hiu
      | externally =>
        cases hu : var.unitLike <;> simp only [htg, hu, Bool.false_eq_true, if_false, if_true] at h
        · obtain ⟨C, hC, rfl⟩ := Option.map_eq_some_iff.mp h
          exact .ext htg hu hC
        · cases h; exact .extUnit htg hu
      | adjacently t c =>
        cases hu : var.unitLike <;> simp only [htg, hu, Bool.false_eq_true, if_false, if_true] at h
        · obtain ⟨C, hC, rfl⟩ := Option.map_eq_some_iff.mp h
          exact .adj htg hu hC
        · cases h; exact .adjUnit htg hu
      | internally t =>
        cases hu : var.unitLike <;> simp only [htg, hu, Bool.false_eq_true, if_false, if_true] at h
        · cases hs : var.shape <;> simp only [hs] at h
          · generalize hf : var.fields = flds at h
            rcases structBody_eq_some.mp h with ⟨_, h, _⟩ | h
            · cases h
            · cases h with
              | empty h => cases h
              | named _ hfs => exact .int htg hu hs (hf ▸ hfs)
          · cases h
          · cases h
        · cases h; exact .intUnit htg hu
  · rintro (⟨hun, h⟩ | ⟨hun, h⟩)
    · simpa only [tg_untagged hun] using h
    · have hvu := (Bool.or_eq_false_iff.mp hun).1
      cases h with
      | int htg hu hs hfs =>
        simp only [hvu, htg, hu, hs, Bool.false_eq_true, if_false]
        exact structBody_eq_some.mpr (.inr (.named (fun _ h => nomatch h) hfs))
      | _ => simp_all

theorem itemBody_eq_some {cfg : Cfg} {env : Env} {it : Item} {B : Ts} : itemBody cfg env it = some B ↔
    if it.isEnum then ∃ arms, variantsTs cfg env it it.variants = some arms ∧ B = if arms.isEmpty then .never else .union arms
    else structBody cfg env it.attr.renameAll it.attr.optionalFields (it.attr.tag.map fun t => (t, Derive.tsName it)) it.shape it.fields = some B := by
  unfold itemBody
  split
  · split
    · rename_i he
      rw [List.isEmpty_iff.mp he]
      exact ⟨fun h => ⟨[], rfl, (Option.some.inj h).symm⟩, fun ⟨arms, h, e⟩ => by cases h; rw [e]; rfl⟩
    · simp only [Option.bind_eq_some_iff, bind]
      refine exists_congr fun arms => and_congr_right fun _ => ?_
      split <;> exact ⟨fun h => (Option.some.inj h).symm, fun h => h ▸ rfl⟩
  · rfl

theorem nameN_commutes (env : Env) : NCommutes (nameN env) := by
  intro id xs T σ h
  obtain ⟨it, hf, hl, rfl⟩ := nameN_eq_some.1 h
  exact nameN_eq_some.2 ⟨it, hf, by rw [substList_length, hl], rfl⟩

theorem isOption_cases (t : RTy) (h : Derive.isOption t = true) : ∃ u, t = .option u := by
  cases t with
  | option u => exact ⟨u, rfl⟩
  | _ => cases h

theorem structBody_ra_irrel (cfg : Cfg) (env : Env) (ra ra' : Option Rule) (of : Opt) (tag : Option (Str × Str))
    (shape : Shape) (fields : List Field) (h : shape ≠ .named) :
    structBody cfg env ra of tag shape fields = structBody cfg env ra' of tag shape fields := by
  cases shape with
  | named => exact absurd rfl h
  | unit => simp [structBody]
  | tuple => simp [structBody]

theorem structBody_unitLike (cfg : Cfg) (env : Env) (ra : Option Rule) (var : Variant) (h : var.unitLike = true) :
    structBody cfg env ra .no none var.shape var.fields = some .null := by
  rcases (unitLike_iff var).mp h with h | ⟨f, h1, h2, h3⟩
  · rw [h]; rfl
  · rw [h1, h2]; simp [structBody, h3]

/-- the declaration of an item is found under its TypeScript name (names are unique) -/
theorem lookup_decl_in (cfg : Cfg) (env : Env) : ∀ (l : List Item) (it : Item) (b : Ts),
    (l.map Derive.tsName).Nodup → it ∈ l → itemBody cfg env it = some b →
    lookupDecl (l.filterMap fun x => (itemBody cfg env x).map fun bb => (Derive.tsName x, x.generics.map (·.name), bb)) (Derive.tsName it)
      = some (it.generics.map (·.name), b)
  | [] => fun _ _ _ h _ => nomatch h
  | x :: xs => fun it b hnd hmem hb => by
    simp only [List.map_cons, List.nodup_cons] at hnd
    rcases List.mem_cons.mp hmem with rfl | hmem'
    · simp [hb, lookupDecl]
    · have hne : Derive.tsName x ≠ Derive.tsName it := fun h => hnd.1 (h ▸ List.mem_map_of_mem hmem')
      have ih := lookup_decl_in cfg env xs it b hnd.2 hmem' hb
      cases hx : itemBody cfg env x with
      | none => simp only [List.filterMap_cons, hx, Option.map_none]; exact ih
      | some bx =>
        simp only [List.filterMap_cons, hx, Option.map_some]
        simp only [lookupDecl, List.find?_cons, hne, decide_false] at ih ⊢
        exact ih

theorem fragB_item {cfg : Cfg} {env : Env} (hF : fragB cfg env = true) {it : Item} (hmem : it ∈ env) :
    (it.isEnum = true → ∀ v ∈ it.variants, variantOk cfg it v = true) ∧
    (it.isEnum = false → bodyOk cfg it.attr.renameAll it.attr.optionalFields it.attr.tag it.shape it.fields = true ∧
      (it.shape = .tuple → ∀ fld, it.fields = [fld] → fld.attr.skip = false)) ∧
    (env.map Derive.tsName).Nodup ∧ ∃ b, itemBody cfg env it = some b := by
  simp only [fragB, Bool.and_eq_true, List.all_eq_true, decide_eq_true_eq] at hF
  obtain ⟨⟨⟨hitems, _⟩, hts⟩, hbodies⟩ := hF
  have hok := (Bool.and_eq_true_iff.mp (hitems it hmem)).2
  refine ⟨fun hen => ?_, fun hen => ?_, hts, Option.isSome_iff_exists.mp (hbodies it hmem)⟩
  · simp only [hen, if_true, Bool.and_eq_true, List.all_eq_true] at hok
    exact hok.2
  · simp only [hen, Bool.false_eq_true, if_false, Bool.and_eq_true, Bool.not_eq_true'] at hok
    exact ⟨hok.1, fun hs fld hfl => by simpa [hs, hfl] using hok.2⟩

theorem zip_map_names (gs : List GenericParam) (args : List RTy) :
    (gs.zip args).map (fun (g, a) => (g.name, a)) = (gs.map (·.name)).zip args := by
  rw [List.zip_map_left]; rfl

end TsRs
