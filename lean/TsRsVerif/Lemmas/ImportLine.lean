import TsRsVerif.Lemmas.SplitLemmas
import TsRsVerif.Lemmas.LitChars
/-! An import line as `generate_imports` / `merge` print it is read back by `parseImportLine`
    (after fix: the line is cut at ` } from `, which no list of identifiers can contain). -/
namespace TsRs
open Text Merge

/-- the separator `merge` cuts an import line at -/
def SEP : Str := " } from ".toList

theorem splitOnce_sep (a b : Str) (h : '}' ∉ a) : splitOnce SEP (a ++ SEP ++ b) = some (a, b) := by
  have e : SEP = ' ' :: '}' :: " from ".toList := by unfold SEP; rw [String.toList_ofList, String.toList_ofList]
  rw [List.append_assoc]
  refine splitOnce_piece (by rw [e]; simp) a b ?_
  rw [e]; exact noMatch_of_second ' ' '}' _ _ (by simp) a h

/-- names as they can stand in an import list: no `}`, `{`, `,` -/
def NameOK (t : Str) : Prop := '}' ∉ t ∧ '{' ∉ t ∧ ',' ∉ t

/-- a path as it can stand between the quotes: not empty, it neither starts with `"` nor ends with `"` or `;` -/
def PathOK (p : Str) : Prop := p ≠ [] ∧ p.head? ≠ some '"' ∧ p.getLast? ≠ some '"' ∧ p.getLast? ≠ some ';'

def PRE : Str := "import type { ".toList
def CS : Str := ", ".toList
def QEND : Str := "\";".toList

/-- the line `generate_imports` / `merge` print for one specifier -/
def renderLine (path : Str) (tys : List Str) : Str := PRE ++ intercalate CS tys ++ (SEP ++ ['"']) ++ path ++ QEND

theorem parse_render_line (path : Str) (tys : List Str) (hp : PathOK path) (hne : tys ≠ []) (ht : ∀ t ∈ tys, NameOK t) :
    parseImportLine (renderLine path tys) = some (path, tys) := by
  obtain ⟨hpne, hp1, hp2, hp3⟩ := hp
  have hPRE : '}' ∉ PRE ∧ PRE ≠ [] ∧ '{' ∈ PRE := by unfold PRE; lit_chars; decide
  have hno : '}' ∉ PRE ++ intercalate CS tys := by
    simp only [List.mem_append, not_or]
    exact ⟨hPRE.1, not_mem_intercalate '}' _ (by decide) tys fun t h => (ht t h).1⟩
  have hx : '{' ∉ intercalate CS tys := not_mem_intercalate '{' _ (by decide) tys fun t h => (ht t h).2.1
  rw [show renderLine path tys = (PRE ++ intercalate CS tys) ++ SEP ++ (['"'] ++ (path ++ ['"', ';'])) by simp [renderLine, QEND]]
  unfold parseImportLine
  -- cut at ` } from `; in front of it, `import type { ` off and split at `, `
  rw [show " } from ".toList = SEP from rfl, splitOnce_sep _ _ hno]
  simp only
  rw [show "import type { ".toList = PRE from rfl, show ", ".toList = CS from rfl,
    trimStartMatches_once PRE _ hPRE.2.1 (by rw [Bool.eq_false_iff, Ne, startsWith_iff]; exact fun h => hx (h.subset hPRE.2.2)),
    split_intercalate (pat := CS) (by decide) tys hne fun t h r => noMatch_of_head ',' [' '] r t (ht t h).2.2]
  -- behind it, the path between the quotes
  obtain ⟨a, as, rfl⟩ := List.exists_cons_of_ne_nil hpne
  rw [trimStartP_append _ _ _ (by simp), trimStartP_id _ (a :: as ++ ['"', ';']) fun c hc => decide_eq_false fun (e : c = '"') => hp1 (e ▸ hc),
    trimEndP_append _ _ _ (by simp), trimEndP_id _ _ fun c hc =>
      Bool.or_eq_false_iff.mpr ⟨decide_eq_false fun (e : c = '"') => hp2 (e ▸ hc), decide_eq_false fun (e : c = ';') => hp3 (e ▸ hc)⟩]

theorem renderImports_lines (m : Imports) : renderImports m = (m.map fun x => renderLine x.1 x.2 ++ ['\n']).flatten := by
  have h2 : " } from \"".toList = SEP ++ ['"'] := by unfold SEP; lit_chars; rfl
  have h3 : "\";\n".toList = QEND ++ ['\n'] := by unfold QEND; lit_chars; rfl
  simp only [renderImports, renderLine, h2, h3, List.append_assoc]
  rfl

/-- a line of the header: not empty, no line break inside, no `\r` at its end -/
def LineOK (l : Str) : Prop := l ≠ [] ∧ '\n' ∉ l ∧ l.getLast? ≠ some '\r'

def header (note : Str) (ls : List Str) : Str := intercalate ['\n'] (note :: ls)

/-- a header is walked over in search of a blank line: none inside a line, and each line break is followed by a character of the next line -/
theorem noMatch_header (note : Str) : ∀ (ls : List Str), LineOK note → (∀ l ∈ ls, LineOK l) → ∀ r, NoMatch nn r (header note ls)
  | [], ⟨_, h2, _⟩, _, r => noMatch_of_head '\n' _ r note h2
  | l :: ls, ⟨_, h2, _⟩, hl, r => by
    obtain ⟨hne, hnl, _⟩ := hl l (by simp)
    obtain ⟨c, t, rfl⟩ := List.exists_cons_of_ne_nil hne
    have hhead : (header (c :: t) ls ++ r).head? = some c := by cases ls <;> rfl
    rw [show header note ((c :: t) :: ls) = note ++ '\n' :: header (c :: t) ls by simp [header, intercalate]]
    exact (noMatch_append _ _).mpr ⟨noMatch_of_head '\n' _ _ note h2,
      stripPrefix_none_of_second fun _ => by rw [hhead]; simpa using fun e => hnl (by simp [e]),
      noMatch_header (c :: t) ls (hl _ (by simp)) (fun x hx => hl x (by simp [hx])) r⟩

theorem lines_header (note : Str) (ls : List Str) (hn : LineOK note) (hl : ∀ l ∈ ls, LineOK l) :
    lines (header note ls) = note :: ls :=
  have h : ∀ l ∈ note :: ls, LineOK l := List.forall_mem_cons.mpr ⟨hn, hl⟩
  lines_intercalate _ (by simp) (fun l hm => ⟨(h l hm).2.1, (h l hm).2.2⟩) fun e => (h [] (List.mem_of_getLast? e)).1 rfl

end TsRs
