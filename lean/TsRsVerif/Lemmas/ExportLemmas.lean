import TsRsVerif.Model.Export
import TsRsVerif.Lemmas.FsLemmas
import TsRsVerif.Lemmas.AbsLemmas
/-! The registry, and what one `export_and_merge` / `export_to` step can do to the world. -/
namespace TsRs.Export
open TsRs.Fs

theorem regGet_regInsert (r : Registry) (k : List Comp) (name : Str) :
    ∃ names, regGet (regInsert r k name) k = some names ∧
      ∀ n, n ∈ names ↔ n = name ∨ n ∈ (regGet r k).getD [] := by
  unfold regInsert
  cases h : regGet r k with
  | none => exact ⟨[name], by simp [regGet, List.find?], by simp⟩
  | some names =>
    refine ⟨if name ∈ names then names else name :: names, by simp [regGet, List.find?], fun n => ?_⟩
    by_cases hm : name ∈ names
    · simp only [hm, if_true, Option.getD_some]
      exact ⟨Or.inr, fun h' => h'.elim (fun e => e ▸ hm) id⟩
    · simp [hm]

theorem regGet_regInsert_ne (r : Registry) (k k' : List Comp) (name : Str) (h : k' ≠ k) :
    regGet (regInsert r k name) k' = regGet r k' := by
  have hd : decide (k = k') = false := by simpa using fun e => h e.symm
  unfold regInsert
  cases regGet r k <;> simp only [regGet, List.find?, hd, find_filter_ne r k k' h]

/-- the five ways `exportAndMerge` can end -/
theorem exportAndMerge_cases (w : World) (path name text : Str) :
    (exportAndMerge w path name text = (w, .panic) ∧ w.poisoned = true) ∨
    (exportAndMerge w path name text = (w, .err .io)) ∨
    (exportAndMerge w path name text = (w, .ok)) ∨
    (exportAndMerge w path name text = ({ w with poisoned := true }, .panic) ∧ w.poisoned = false ∧
        ∃ names loc orig why, regGet w.reg (regKey path) = some names ∧ w.fs.openRead path = some (loc, orig)
          ∧ Merge.merge orig text = .panic why) ∨
    (∃ l c, w.poisoned = false ∧ (w.fs.lookup l ≠ some .dir) ∧ exportAndMerge w path name text =
        ({ w with fs := w.fs.set l (.file c), reg := regInsert w.reg (regKey path) name }, .ok)) := by
  fun_cases exportAndMerge w path name text with
  | case1 hp => exact .inl ⟨rfl, hp⟩
  | case2 => exact .inr (.inl rfl)
  | case3 hp _ _ fs' hc =>
    obtain ⟨l, ⟨_, _, _, hnd⟩, rfl⟩ := (fileCreate_eq_some _ _ _ _).mp hc
    exact .inr (.inr (.inr (.inr ⟨l, text, Bool.eq_false_iff.mpr hp, hnd, rfl⟩)))
  | case4 => exact .inr (.inr (.inl rfl))
  | case5 => exact .inr (.inl rfl)
  | case6 hp _ names hr _ loc orig ho why hm =>
    exact .inr (.inr (.inr (.inl ⟨rfl, Bool.eq_false_iff.mpr hp, names, loc, orig, why, hr, ho, hm⟩)))
  | case7 hp _ _ _ _ loc _ ho _ _ =>
    exact .inr (.inr (.inr (.inr ⟨loc, _, Bool.eq_false_iff.mpr hp, by rw [(openRead_spec _ _ _ _ ho).2.2]; simp, rfl⟩)))

theorem exportAndMerge_err (w w' : World) (path name text : Str) (e : ExportErr)
    (h : exportAndMerge w path name text = (w', .err e)) : w' = w := by
  rcases exportAndMerge_cases w path name text with ⟨h1, _⟩ | h1 | h1 | ⟨h1, _⟩ | ⟨l, c, _, _, h1⟩ <;>
    rw [h1] at h <;> simp at h
  exact h.1.symm

/-- a step changes the file system at most by a regular file where no directory was: the current directory and every directory stay -/
theorem exportAndMerge_dirs (w : World) (path name text : Str) :
    (exportAndMerge w path name text).1.fs.cwd = w.fs.cwd ∧
      ∀ l, w.fs.lookup l = some .dir → (exportAndMerge w path name text).1.fs.lookup l = some .dir := by
  rcases exportAndMerge_cases w path name text with ⟨h1, _⟩ | h1 | h1 | ⟨h1, _⟩ | ⟨l, c, _, hnd, h1⟩ <;> rw [h1]
  all_goals first | exact ⟨rfl, fun _ h => h⟩ | skip
  exact ⟨rfl, fun l' h => (lookup_set_ne _ _ fun e : l' = l => hnd (e ▸ h)).trans h⟩

theorem exportTo_cases (w : World) (t : TyInfo) (p : Str) :
    (∃ e, exportTo w t p = (w, .err e)) ∨
    ∃ path text fs', Path.absolute (cwdStr w.fs) p = .ok path ∧ t.text = .ok text ∧
      ((Path.parent path = none ∧ fs' = w.fs) ∨ ∃ par, Path.parent path = some par ∧ w.fs.createDirAll par = some fs') ∧
      exportTo w t p = exportAndMerge { w with fs := fs' } path t.ident text := by
  fun_cases exportTo w t p with
  | case1 e => exact .inl ⟨e, rfl⟩
  | case2 _ _ e => exact .inl ⟨e, rfl⟩
  | case3 path ha text ht hpar => exact .inr ⟨path, text, w.fs, ha, ht, .inl ⟨hpar, rfl⟩, rfl⟩
  | case4 => exact .inl ⟨.io, rfl⟩
  | case5 path ha text ht par hpar fs' hc => exact .inr ⟨path, text, fs', ha, ht, .inr ⟨par, hpar, hc⟩, rfl⟩

/-- `export_into` normalises `dir / output_path()` and `export_to` normalises again: the second time is the identity -/
theorem exportInto_join (w : World) (t : TyInfo) (dir op : Str) (ho : t.outputPath = some op) :
    exportInto w t dir = exportTo w t (Path.join dir op) := by
  simp only [exportInto, ho]
  cases ha : Path.absolute (cwdStr w.fs) (Path.join dir op) with
  | error e => simp [exportTo, ha]
  | ok p => simp only [exportTo, ha, Path.absolute_idem _ _ _ (by simp [cwdStr, Path.isAbsolute]) ha]

end TsRs.Export
