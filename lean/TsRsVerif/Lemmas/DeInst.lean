import TsRsVerif.Lemmas.DeComplete
/-!
# Instances of generic items

`Item.inst σ it` is the item with its type parameters replaced (`σ`) in every field type — what a use `Name<A, B>` of a generic
item stands for. Reading a value as `Name<A, B>` (the acceptance model) is reading it as the instance; the body of the instance
is the generic body with the names of the arguments substituted (`itemBody_inst`); the conditions of the fragment carry over to the
instance clause by clause (`variantOk_inst`, `bodyOk_inst`, `fieldsTyOk_inst`; assembled as `frag_inst` in `DeComplete2`). With these the completeness theorem for monomorphic items carries over to every use of a generic item.
-/
namespace TsRs
open Tree Builtin De

def Field.inst (σ : List (Str × RTy)) (f : Field) : Field := { f with ty := RTy.subst σ f.ty }
def Variant.inst (σ : List (Str × RTy)) (v : Variant) : Variant := { v with fields := v.fields.map (Field.inst σ) }
def Item.inst (σ : List (Str × RTy)) (it : Item) : Item :=
  { it with generics := [], fields := it.fields.map (Field.inst σ), variants := it.variants.map (Variant.inst σ) }

section
variable {σ : List (Str × RTy)}
@[simp] theorem Field.inst_attr (f : Field) : (Field.inst σ f).attr = f.attr := rfl
@[simp] theorem Field.inst_name (f : Field) : (Field.inst σ f).name = f.name := rfl
@[simp] theorem Field.inst_ty (f : Field) : (Field.inst σ f).ty = RTy.subst σ f.ty := rfl
@[simp] theorem Variant.inst_attr (v : Variant) : (Variant.inst σ v).attr = v.attr := rfl
@[simp] theorem Variant.inst_name (v : Variant) : (Variant.inst σ v).name = v.name := rfl
@[simp] theorem Variant.inst_shape (v : Variant) : (Variant.inst σ v).shape = v.shape := rfl
@[simp] theorem Variant.inst_fields (v : Variant) : (Variant.inst σ v).fields = v.fields.map (Field.inst σ) := rfl
@[simp] theorem Item.inst_attr (it : Item) : (Item.inst σ it).attr = it.attr := rfl
@[simp] theorem Item.inst_name (it : Item) : (Item.inst σ it).name = it.name := rfl
@[simp] theorem Item.inst_isEnum (it : Item) : (Item.inst σ it).isEnum = it.isEnum := rfl
@[simp] theorem Item.inst_shape (it : Item) : (Item.inst σ it).shape = it.shape := rfl
@[simp] theorem Item.inst_generics (it : Item) : (Item.inst σ it).generics = [] := rfl
@[simp] theorem Item.inst_fields (it : Item) : (Item.inst σ it).fields = it.fields.map (Field.inst σ) := rfl
@[simp] theorem Item.inst_variants (it : Item) : (Item.inst σ it).variants = it.variants.map (Variant.inst σ) := rfl

@[simp] theorem serdeFieldKey_inst (cfg : Cfg) (ra : Option Rule) (f : Field) : Serde.fieldKey cfg ra (Field.inst σ f) = Serde.fieldKey cfg ra f := rfl
@[simp] theorem treeFieldKey_inst (cfg : Cfg) (ra : Option Rule) (f : Field) : Tree.fieldKey cfg ra (Field.inst σ f) = Tree.fieldKey cfg ra f := rfl
@[simp] theorem missingOk_inst (t : RTy) (f : Field) : missingOk t (Field.inst σ f) = missingOk t f := rfl
@[simp] theorem variantKey_inst (cfg : Cfg) (ra : Option Rule) (v : Variant) : Serde.variantKey cfg ra (Variant.inst σ v) = Serde.variantKey cfg ra v := rfl
@[simp] theorem variantTsName_inst (cfg : Cfg) (ra : Option Rule) (v : Variant) :
    Derive.variantTsName cfg ra (Variant.inst σ v) = Derive.variantTsName cfg ra v := rfl
@[simp] theorem renameAllS_inst (it : Item) (v : Variant) : Serde.renameAllS (Item.inst σ it) (Variant.inst σ v) = Serde.renameAllS it v := rfl
@[simp] theorem renameAllT_inst (it : Item) (v : Variant) : Tree.renameAllT (Item.inst σ it) (Variant.inst σ v) = Tree.renameAllT it v := rfl
@[simp] theorem tsName_inst (it : Item) : Derive.tsName (Item.inst σ it) = Derive.tsName it := rfl

@[simp] theorem unitLike_inst (v : Variant) : (Variant.inst σ v).unitLike = v.unitLike := by
  unfold Variant.unitLike
  simp only [Variant.inst_shape, Variant.inst_fields]
  match v.fields with
  | [] => rfl
  | [_] => rfl
  | _ :: _ :: _ => rfl
end

theorem accNamed_inst (cfg : Cfg) (env : Env) (σ : List (Str × RTy)) (ra : Option Rule) (kvs : List (Str × JVal)) :
    ∀ (f : Nat) (fields : List Field), accNamed cfg env f σ ra fields kvs = accNamed cfg env f [] ra (fields.map (Field.inst σ)) kvs
  | 0, _ | _ + 1, [] => rfl
  | f + 1, fld :: fs => by
    simp only [accNamed, List.map_cons, Field.inst_attr, Field.inst_ty, serdeFieldKey_inst, missingOk_inst, rsubst_nil,
      accNamed_inst cfg env σ ra kvs f fs]

theorem accTuple_inst (cfg : Cfg) (env : Env) (σ : List (Str × RTy)) :
    ∀ (f : Nat) (fields : List Field) (js : List JVal), accTuple cfg env f σ fields js = accTuple cfg env f [] (fields.map (Field.inst σ)) js
  | 0, _, _ | _ + 1, [], [] | _ + 1, [], _ :: _ => rfl
  | f + 1, fld :: fs, js => by
    simp only [accTuple, List.map_cons, Field.inst_attr, Field.inst_ty, rsubst_nil, accTuple_inst cfg env σ f fs]

theorem accBody_inst (cfg : Cfg) (env : Env) (σ : List (Str × RTy)) (ra : Option Rule) (tag : Option Str) (shape : Shape) (fields : List Field) (j : JVal) :
    ∀ (f : Nat), accBody cfg env f σ ra tag shape fields j = accBody cfg env f [] ra tag shape (fields.map (Field.inst σ)) j
  | 0 => rfl
  | f + 1 => by
    cases shape with
    | unit => rfl
    | named =>
      cases j with
      | obj kvs => exact accNamed_inst cfg env σ ra kvs f fields
      | _ => rfl
    | tuple =>
      match fields with
      | [fld] => exact congrArg (accTy cfg env f · j) (rsubst_nil _).symm
      | [] | _ :: _ :: _ =>
        cases j with
        | arr js => exact accTuple_inst cfg env σ f _ js
        | _ => rfl

theorem accVariantContent_inst (cfg : Cfg) (env : Env) (σ : List (Str × RTy)) (it : Item) (var : Variant) (content : Option JVal) :
    ∀ (f : Nat), accVariantContent cfg env f it σ var content = accVariantContent cfg env f (Item.inst σ it) [] (Variant.inst σ var) content
  | 0 => rfl
  | f + 1 => by
    simp only [accVariantContent, unitLike_inst, renameAllS_inst, Variant.inst_shape, Variant.inst_fields]
    cases content with
    | none => rfl
    | some c => simp only [accBody_inst cfg env σ _ none var.shape var.fields c f]

theorem filter_inst (σ : List (Str × RTy)) (p : VariantAttr → Bool) (vs : List Variant) :
    (vs.map (Variant.inst σ)).filter (fun v => p v.attr) = (vs.filter (fun v => p v.attr)).map (Variant.inst σ) := by
  rw [List.filter_map]; rfl

theorem find_inst (σ : List (Str × RTy)) (cfg : Cfg) (ra : Option Rule) (n : Str) (vs : List Variant) :
    (vs.map (Variant.inst σ)).find? (fun v => Serde.variantKey cfg ra v = n) = (vs.find? (fun v => Serde.variantKey cfg ra v = n)).map (Variant.inst σ) := by
  rw [List.find?_map]; rfl

theorem accEnum_inst (cfg : Cfg) (env : Env) (σ : List (Str × RTy)) (it : Item) (j : JVal) :
    ∀ (f : Nat), accEnum cfg env f it σ j = accEnum cfg env f (Item.inst σ it) [] j
  | 0 => rfl
  | f + 1 => by
    have hl := filter_inst σ (fun a => !a.skip) it.variants
    have hu := fun vs => filter_inst σ (fun a => a.untagged || it.attr.untagged) vs
    have ht := fun vs => filter_inst σ (fun a => !(a.untagged || it.attr.untagged)) vs
    -- a fold over the `untagged` variants that starts from what is read through the tag
    show List.foldl _ _ (List.filter _ (List.filter _ it.variants)) = List.foldl _ _ (List.filter _ (List.filter _ (it.variants.map (Variant.inst σ))))
    dsimp +instances only [Item.inst_variants, Item.inst_attr]
    rw [hl, hu, List.foldl_map]
    congr 1
    · funext acc var
      rw [unitLike_inst, ← accVariantContent_inst cfg env σ it var _ f]
    · simp only [ht, find_inst]
      cases Derive.tagged it.attr with
      | untagged => rfl
      | externally =>
        simp only
        split
        · split <;> rename_i h <;> simp only [h, Option.map_some, Option.map_none, unitLike_inst]
        · split <;> rename_i h <;> simp only [h, Option.map_some, Option.map_none, ← accVariantContent_inst cfg env σ it _ _ f]
        · rfl
      | adjacently t c =>
        simp only
        split
        · split
          · split <;> rename_i h <;> simp only [h, Option.map_some, Option.map_none, ← accVariantContent_inst cfg env σ it _ _ f]
          · rfl
        · rfl
      | internally t =>
        simp only
        split
        · rename_i kvs
          split
          · split
            · rename_i var h
              simp only [h, Option.map_some, unitLike_inst, Variant.inst_shape, Variant.inst_fields, renameAllS_inst,
                ← accNamed_inst cfg env σ _ kvs f var.fields]
              match var.fields with
              | [] => rfl
              | [fld] => simp [rsubst_nil]
              | _ :: _ :: _ => rfl
            · rename_i h
              simp only [h, Option.map_none]
          · rfl
        · rfl

theorem isOption_subst (σ : List (Str × RTy)) (t : RTy) (h : isParam t = false) : Derive.isOption (RTy.subst σ t) = Derive.isOption t := by
  cases t with
  | param _ => cases h
  | _ => rfl

theorem optionInner_subst (σ : List (Str × RTy)) (t : RTy) (h : isParam t = false) :
    Derive.optionInner (RTy.subst σ t) = RTy.subst σ (Derive.optionInner t) := by
  cases t with
  | param _ => cases h
  | _ => rfl

theorem optMode_inst (σ : List (Str × RTy)) (of : Opt) (f : Field) (h : of = .no ∨ isParam f.ty = false) :
    optMode of (Field.inst σ f) = optMode of f := by
  unfold optMode
  simp only [Field.inst_attr, Field.inst_ty]
  rcases h with rfl | h
  · cases f.attr.optional <;> rfl
  · rw [isOption_subst σ f.ty h]

/-- where the `| null` is dropped the type is an `Option`, not a bare parameter -/
theorem notParam_of (of : Opt) (f : Field) (ho : (optMode of f).1 = false ∨ Derive.isOption f.ty = true)
    (hp : of = .no ∨ isParam f.ty = false) (h2 : (optMode of f).2 = false) : isParam f.ty = false := by
  rcases hp with rfl | hp
  · unfold optMode at h2 ho
    cases hopt : f.attr.optional <;> simp [hopt] at h2 ho
    cases hty : f.ty <;> simp [hty, Derive.isOption, isParam] at ho ⊢
  · exact hp

section
variable (cfg : Cfg) (env : Env) (names : List Str) (args : List RTy) (targs : List Ts)
  (hargs : nameTyBL cfg.limit (nameN env) args = some targs)
include hargs

theorem tyTs_inst (t : RTy) (T : Ts) (h : tyTs cfg env t = some T) :
    tyTs cfg env (RTy.subst (names.zip args) t) = some (Ts.subst (names.zip targs) T) :=
  name_subst cfg.limit (nameN env) (nameN_commutes env) names args targs hargs t T h

theorem fieldTs_inst (ra : Option Rule) (of : Opt) (f : Field) (hsk : f.attr.skip = false) (hok : fieldOkN cfg ra of f = true) (p : TsKey × Ts)
    (h : fieldTs cfg env ra of f = some p) :
    fieldTs cfg env ra of (Field.inst (names.zip args) f) = some (p.1, Ts.subst (names.zip targs) p.2) := by
  have hok := (fieldOkN_iff hsk).mp hok
  obtain ⟨T, hT, rfl⟩ := Option.map_eq_some_iff.mp h
  have hty : fieldTy of (Field.inst (names.zip args) f) = RTy.subst (names.zip args) (fieldTy of f) := by
    unfold fieldTy
    rw [optMode_inst _ of f hok.param, Field.inst_ty]
    cases h2 : (optMode of f).2 with
    | true => rfl
    | false => exact optionInner_subst _ _ (notParam_of of f hok.option hok.param h2)
  simp only [fieldTs, hty, tyTs_inst cfg env names args targs hargs _ T hT, optMode_inst _ of f hok.param, treeFieldKey_inst, Option.map_some]

theorem fieldsTs_inst (ra : Option Rule) (of : Opt) (fields : List Field) (fs : List (TsKey × Ts))
    (h : fieldsTs cfg env ra of fields = some fs) (hok : fields.all (fieldOkN cfg ra of) = true) :
    fieldsTs cfg env ra of (fields.map (Field.inst (names.zip args))) = some (Ts.substFields (names.zip targs) fs) := by
  rw [fieldsTs_eq] at h ⊢
  rw [substFields_map]
  exact keepM_map (Field.inst _) _ (fun _ => rfl) h fun f hf hsk p hp =>
    fieldTs_inst cfg env names args targs hargs ra of f hsk (List.all_eq_true.mp hok f hf) p hp

theorem tupleTs_inst (fields : List Field) (Xs : List Ts) (h : tupleTs cfg env fields = some Xs) :
    tupleTs cfg env (fields.map (Field.inst (names.zip args))) = some (Ts.substList (names.zip targs) Xs) := by
  rw [tupleTs_eq] at h ⊢
  rw [substList_eq_map]
  exact keepM_map (Field.inst _) (Ts.subst _) (fun _ => rfl) h (fun f _ _ T hT => tyTs_inst cfg env names args targs hargs _ T hT)

theorem structBody_inst (ra : Option Rule) (of : Opt) (tag : Option (Str × Str)) (shape : Shape) (fields : List Field) (B : Ts)
    (h : structBody cfg env ra of tag shape fields = some B) (hok : shape = .named → fields.all (fieldOkN cfg ra of) = true) :
    structBody cfg env ra of tag shape (fields.map (Field.inst (names.zip args))) = some (Ts.subst (names.zip targs) B) := by
  refine structBody_eq_some.mpr ?_
  rcases structBody_eq_some.mp h with ⟨f, rfl, rfl, h'⟩ | hB
  · refine .inl ⟨_, rfl, rfl, ?_⟩
    rw [Field.inst_attr, Field.inst_ty]
    split at h' <;> rename_i hsk
    · cases h'; simp only [if_pos hsk, Ts.subst]
    · rw [if_neg hsk]; exact tyTs_inst cfg env names args targs hargs _ B h'
  · right
    cases hB with
    | unit => exact .unit
    | empty ht => exact .empty ht
    | named hne hfs =>
      have := BodyCase.named (tag := tag) (fun h => hne (List.map_eq_nil_iff.mp h)) (fieldsTs_inst cfg env names args targs hargs ra of _ _ hfs (hok rfl))
      rcases tag with _ | ⟨t, n⟩ <;> simpa [Ts.subst, Ts.substFields] using this
    | never => exact .never
    | tuple hts =>
      simp only [Ts.subst, List.map_cons]
      exact .tuple (tupleTs_inst cfg env names args targs hargs _ _ hts)

theorem variantTs_inst (it : Item) (var : Variant) (A : Ts) (h : variantTs cfg env it var = some A)
    (hok : var.shape = .named → var.fields.all (fieldOkN cfg (renameAllT it var) .no) = true) :
    variantTs cfg env (Item.inst (names.zip args) it) (Variant.inst (names.zip args) var) = some (Ts.subst (names.zip targs) A) := by
  have sb := fun B hB => structBody_inst cfg env names args targs hargs (renameAllT it var) .no none var.shape var.fields B hB hok
  refine variantTs_eq_some.mpr ?_
  rcases variantTs_eq_some.mp h with ⟨hun, hB⟩ | ⟨hvu, hV⟩
  · exact .inl ⟨hun, sb A hB⟩
  · refine .inr ⟨hvu, ?_⟩
    have hul := unitLike_inst (σ := names.zip args) var
    cases hV <;> simp only [Ts.subst, Ts.substFields]
    case extUnit htg hu => exact .extUnit (it := Item.inst _ it) htg (hul.trans hu)
    case ext htg hu hC => exact .ext (it := Item.inst _ it) htg (hul.trans hu) (sb _ hC)
    case adjUnit htg hu => exact .adjUnit (it := Item.inst _ it) htg (hul.trans hu)
    case adj htg hu hC => exact .adj (it := Item.inst _ it) htg (hul.trans hu) (sb _ hC)
    case intUnit htg hu => exact .intUnit (it := Item.inst _ it) htg (hul.trans hu)
    case int htg hu hsh hfs =>
      exact .int (it := Item.inst _ it) htg (hul.trans hu) hsh (fieldsTs_inst cfg env names args targs hargs _ .no _ _ hfs (hok hsh))

theorem variantsTs_inst (it : Item) (vs : List Variant) (arms : List Ts) (h : variantsTs cfg env it vs = some arms)
    (hok : ∀ v ∈ vs, v.shape = .named → v.fields.all (fieldOkN cfg (renameAllT it v) .no) = true) :
    variantsTs cfg env (Item.inst (names.zip args) it) (vs.map (Variant.inst (names.zip args))) = some (Ts.substList (names.zip targs) arms) := by
  rw [variantsTs_eq] at h ⊢
  rw [substList_eq_map]
  exact keepM_map (Variant.inst _) (Ts.subst _) (fun _ => rfl) h (fun v hv _ A hA => variantTs_inst cfg env names args targs hargs it v A hA (hok v hv))

theorem itemBody_inst (it : Item) (b : Ts) (h : itemBody cfg env it = some b)
    (hS : it.isEnum = false → it.shape = .named → it.fields.all (fieldOkN cfg it.attr.renameAll it.attr.optionalFields) = true)
    (hE : it.isEnum = true → ∀ v ∈ it.variants, v.shape = .named → v.fields.all (fieldOkN cfg (renameAllT it v) .no) = true) :
    itemBody cfg env (Item.inst (names.zip args) it) = some (Ts.subst (names.zip targs) b) := by
  rw [itemBody_eq_some] at h ⊢
  rw [Item.inst_isEnum]
  cases hen : it.isEnum with
  | true =>
    simp only [hen, if_true] at h ⊢
    obtain ⟨arms, harms, rfl⟩ := h
    refine ⟨_, variantsTs_inst cfg env names args targs hargs it _ arms harms (hE hen), ?_⟩
    cases arms <;> simp [Ts.subst, Ts.substList]
  | false =>
    simp only [hen, Bool.false_eq_true, if_false] at h ⊢
    exact structBody_inst cfg env names args targs hargs _ _ _ _ _ b h (hS hen)
end

theorem isParam_subst (σ : List (Str × RTy)) (t : RTy) (h : isParam t = false) : isParam (RTy.subst σ t) = false := by
  cases t with
  | param _ => cases h
  | _ => rfl

theorem isOption_subst_of (σ : List (Str × RTy)) (t : RTy) (h : Derive.isOption t = true) : Derive.isOption (RTy.subst σ t) = true := by
  cases t with
  | option _ => rfl
  | _ => cases h

theorem fieldOkN_inst (σ : List (Str × RTy)) (cfg : Cfg) (ra : Option Rule) (of : Opt) (f : Field) (h : fieldOkN cfg ra of f = true) :
    fieldOkN cfg ra of (Field.inst σ f) = true := by
  cases hsk : f.attr.skip with
  | true => simpa only [fieldOkN, Field.inst_attr, hsk, Bool.true_or, Bool.and_true] using h
  | false =>
    have h := (fieldOkN_iff hsk).mp h
    have hm := optMode_inst σ of f h.param
    exact (fieldOkN_iff (f := Field.inst σ f) hsk).mpr { h with
      omitted := hm ▸ h.omitted, option := hm ▸ h.option.imp_right (isOption_subst_of σ _), noNull := hm ▸ h.noNull,
      param := h.param.imp_right (isParam_subst σ _) }

theorem fieldOk_inst (σ : List (Str × RTy)) (cfg : Cfg) (ra : Option Rule) (f : Field) : fieldOk cfg ra (Field.inst σ f) = fieldOk cfg ra f := rfl

theorem keysOf_inst (σ : List (Str × RTy)) (cfg : Cfg) (ra : Option Rule) (fields : List Field) :
    keysOf cfg ra (fields.map (Field.inst σ)) = keysOf cfg ra fields := by
  simp only [keysOf, List.filter_map, List.map_map]; rfl

theorem bodyOk_inst (σ : List (Str × RTy)) (cfg : Cfg) (ra : Option Rule) (of : Opt) (tag : Option Str) (shape : Shape) (fields : List Field)
    (h : bodyOk cfg ra of tag shape fields = true) : bodyOk cfg ra of tag shape (fields.map (Field.inst σ)) = true := by
  simp only [bodyOk, Bool.and_eq_true, keysOf_inst] at h ⊢
  refine ⟨?_, h.2⟩
  have h1 := h.1
  by_cases hs : (shape == Shape.named) = true
  · simp only [hs, if_true, List.all_map, List.all_eq_true, Function.comp] at h1 ⊢
    intro f hf; exact fieldOkN_inst σ cfg ra of f (h1 f hf)
  · simp only [hs, Bool.false_eq_true, if_false, List.all_map, List.all_eq_true, Function.comp] at h1 ⊢
    intro f hf; exact h1 f hf

theorem variantOk_inst (σ : List (Str × RTy)) (cfg : Cfg) (it : Item) (v : Variant) (h : variantOk cfg it v = true) :
    variantOk cfg (Item.inst σ it) (Variant.inst σ v) = true := by
  unfold variantOk at h ⊢
  dsimp +instances only [Variant.inst_attr, Item.inst_attr, Variant.inst_shape, Variant.inst_fields] at h ⊢
  simp only [variantTsName_inst, variantKey_inst, renameAllT_inst, renameAllS_inst, Bool.and_eq_true] at h ⊢
  refine ⟨h.1, h.2.1, ?_⟩
  have h3 := h.2.2
  cases htg : (if v.attr.untagged = true then Derive.Tagged.untagged else Derive.tagged it.attr) with
  | untagged | externally =>
    simp only [htg] at h3 ⊢
    exact bodyOk_inst σ cfg _ _ _ _ _ h3
  | adjacently t c =>
    simp only [htg, Bool.and_eq_true] at h3 ⊢
    exact ⟨h3.1, bodyOk_inst σ cfg _ _ _ _ _ h3.2⟩
  | internally t =>
    simp only [htg, Bool.and_eq_true] at h3 ⊢
    refine ⟨?_, bodyOk_inst σ cfg _ _ _ _ _ h3.2⟩
    have h31 := h3.1
    revert h31
    cases v.fields with
    | nil => exact id
    | cons a l => cases l <;> exact id

theorem zip_find_isSome (names : List Str) (args : List RTy) (hl : names.length ≤ args.length) (n : Str) (hn : n ∈ names) :
    ((names.zip args).find? (·.1 = n)).isSome = true := by
  obtain ⟨i, hi, rfl⟩ := List.mem_iff_getElem.mp hn
  exact List.find?_isSome.mpr ⟨(names.zip args)[i]'(by simp; omega), List.getElem_mem _, by simp⟩

theorem fieldTyOk_inst (cfg : Cfg) (names : List Str) (args : List RTy) (hlen : names.length ≤ args.length)
    (hargs : tyOkL cfg.limit args = true) (f : Field) (h : fieldTyOkP cfg names f = true) :
    fieldTyOk cfg (Field.inst (names.zip args) f) = true := by
  simp only [fieldTyOkP, fieldTyOk, Field.inst_attr, Field.inst_ty, Bool.or_eq_true] at h ⊢
  rcases h with h | h
  · exact Or.inl h
  · refine Or.inr (tyOk_subst cfg.limit _ ?_ names (zip_find_isSome names args hlen) f.ty h)
    intro p hp
    exact tyOkL_mem hargs p.2 (List.of_mem_zip hp).2

theorem fieldsTyOk_inst (cfg : Cfg) (names : List Str) (args : List RTy) (hlen : names.length ≤ args.length)
    (hargs : tyOkL cfg.limit args = true) (fields : List Field) (h : fields.all (fieldTyOkP cfg names) = true) :
    (fields.map (Field.inst (names.zip args))).all (fieldTyOk cfg) = true := by
  simp only [List.all_map, List.all_eq_true] at h ⊢
  intro f hf
  exact fieldTyOk_inst cfg names args hlen hargs f (h f hf)

end TsRs
