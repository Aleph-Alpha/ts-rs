import TsRsVerif.Lemmas.HistoryWorld
/-!
# Histories through the entry point `export_to`

`export_to` normalises the path it is given (`path::absolute`), creates the missing parent directories (`create_dir_all`) and
then calls `export_and_merge`. A whole history of such calls — each with its OWN SPELLING of the path, as long as the spellings
have one normal form — IS the history of `export_and_merge` calls on the file system in which the parent directories exist
(`runAllTo_eq_runAll`): `create_dir_all` creates them once and is the identity afterwards (also after the file has been written,
since no step removes a directory: `exportAndMerge_dirs`).
-/
namespace TsRs
open Export Fs Path

theorem parent_ofComps (ns : List Str) (name : Str) (hns : ∀ n ∈ ns ++ [name], CompName n) :
    Path.parent (ofComps (Comp.root :: N (ns ++ [name]))) = some (ofComps (Comp.root :: N ns)) := by
  unfold Path.parent
  rw [components_ofComps _ hns]
  simp [N, List.reverse_append]

theorem createDirAll_ofComps (fs : Fs) (ns : List Str) (hns : ∀ n ∈ ns, CompName n) :
    fs.createDirAll (ofComps (Comp.root :: N ns)) = Fs.createDirAllAux fs [] (ns.map Comp.normal) := by
  have hne : ofComps (Comp.root :: N ns) ≠ [] := by simp [ofComps]
  rw [Fs.createDirAll, if_neg hne, components_ofComps ns hns]
  rfl

/-- after `create_dir_all` of `/n₁/../nₖ`, the path `/n₁/../nₖ/name` resolves to `[n₁, .., nₖ, name]` -/
theorem resolve_after_mkdir (fs fsD : Fs) (ns : List Str) (name : Str) (hns : ∀ n ∈ ns ++ [name], CompName n)
    (hd : Fs.createDirAllAux fs [] (ns.map Comp.normal) = some fsD) :
    fsD.resolve (ofComps (Comp.root :: N (ns ++ [name]))) = some (ns ++ [name]) ∧ fsD.isDir ns = true := by
  obtain ⟨hw, hdir⟩ := Fs.createDirAllAux_walk ns fs [] fsD (by simp [Fs.isDir, lookup_nil]) hd
  simp only [List.nil_append] at hdir hw
  refine ⟨?_, hdir⟩
  unfold Fs.resolve
  rw [components_ofComps _ hns]
  simp only [Fs.walk, N, List.map_append]
  rw [walk_append, hw]
  simp [Fs.walk, hdir]

/-- **the target can be created once `create_dir_all` has run**, unless it is a directory: whatever `export_to` was given, the
normal form is `/n₁/../nₖ/name` (`absolute_shape`), its parent `/n₁/../nₖ` -/
theorem exportTo_target_creatable (w : World) (p0 path par : Str) (fsD : Fs) (text : Str)
    (habs : Path.absolute (cwdStr w.fs) p0 = .ok path) (hpar : Path.parent path = some par) (hd : w.fs.createDirAll par = some fsD)
    (hnd : ∀ loc, fsD.resolve path = some loc → fsD.lookup loc ≠ some .dir) : (fsD.fileCreate path text).isSome := by
  obtain ⟨ns, rfl, hns⟩ := absolute_shape (cwdStr w.fs) p0 path (by simp [cwdStr, isAbsolute]) habs
  rcases List.eq_nil_or_concat ns with rfl | ⟨ns', name, rfl⟩
  · rw [Path.parent, components_ofComps [] (by simp)] at hpar
    simp [N] at hpar
  · simp only [List.concat_eq_append] at hns hpar hnd ⊢
    rw [parent_ofComps ns' name hns, Option.some.injEq] at hpar
    subst hpar
    rw [createDirAll_ofComps _ _ fun n hn => hns n (by simp [hn])] at hd
    obtain ⟨hres, hdir⟩ := resolve_after_mkdir w.fs fsD ns' name hns hd
    exact (fileCreate_isSome _ _ _).mpr ⟨_, hres, by simp, by simpa using hdir, hnd _ hres⟩

/-- the table entry `export_to` needs of a generated text: identifier and text (`export_to` reads neither `output_path` nor the dependencies) -/
def tyOfGen (g : GenT) : TyInfo := { ident := g.ident, outputPath := none, text := .ok (genText g), deps := [] }

/-- a history through `export_to`: each step has its own spelling of the path -/
def runAllTo : World → List (Str × GenT) → World × Bool
  | w, [] => (w, true)
  | w, (p0, g) :: rest =>
    match exportTo w (tyOfGen g) p0 with
    | (w', .ok) => runAllTo w' rest
    | (w', _) => (w', false)

theorem exportTo_eq (w : World) (g : GenT) (p0 path par : Str) (fsD : Fs)
    (habs : Path.absolute (cwdStr w.fs) p0 = .ok path) (hpar : Path.parent path = some par)
    (hd : w.fs.createDirAll par = some fsD) :
    exportTo w (tyOfGen g) p0 = exportGen { w with fs := fsD } path g := by
  simp [exportTo, tyOfGen, habs, hpar, hd, exportGen]

/-- **in a file system that has the parent directories, a history through `export_to` IS the history of `export_and_merge` calls
at the normal form**: `create_dir_all` is the identity there, and no step removes a directory -/
theorem runAllTo_eq_runAll (path par : Str) (hpar : Path.parent path = some par) (fs0 : Fs) (steps : List (Str × GenT)) (w : World)
    (hc : w.fs.cwd = fs0.cwd) (hd : w.fs.createDirAll par = some w.fs)
    (habs : ∀ s ∈ steps, Path.absolute (cwdStr fs0) s.1 = .ok path) : runAllTo w steps = runAll path w (steps.map (·.2)) := by
  induction steps generalizing w with
  | nil => rfl
  | cons s rest ih =>
    obtain ⟨p0, g⟩ := s
    have hstep : exportTo w (tyOfGen g) p0 = exportGen w path g :=
      exportTo_eq w g p0 path par w.fs (by rw [cwdStr, hc]; exact habs (p0, g) (by simp)) hpar hd
    have hdirs := exportAndMerge_dirs w path g.ident (genText g)
    rw [runAllTo, List.map_cons, runAll, hstep, exportGen]
    generalize exportAndMerge w path g.ident (genText g) = r at hdirs
    obtain ⟨w', o⟩ := r
    cases o with
    | ok => exact ih w' (hdirs.1.trans hc) (createDirAll_idem w.fs par w.fs hd w'.fs hdirs.1 hdirs.2) fun s hs => habs s (List.mem_cons_of_mem _ hs)
    | err e => rfl
    | panic => rfl

theorem historyTo_canonical (w : World) (path par : Str) (fsD : Fs) (steps : List (Str × GenT)) (hne : steps ≠ [])
    (habs : ∀ s ∈ steps, Path.absolute (cwdStr w.fs) s.1 = .ok path) (hpar : Path.parent path = some par)
    (hd : w.fs.createDirAll par = some fsD) (hok : GensOK (steps.map (·.2)))
    (hp : w.poisoned = false) (hreg : regGet w.reg (regKey path) = none)
    (hfile : ∀ loc, fsD.resolve path = some loc → fsD.lookup loc ≠ some .dir) :
    ∃ w' loc, runAllTo w steps = (w', true) ∧ fsD.resolve path = some loc ∧
      w'.fs = fsD.set loc (.file (fileText (canonSt (steps.map (·.2))))) := by
  obtain ⟨⟨p0, g⟩, rest, rfl⟩ := List.exists_cons_of_ne_nil hne
  have h0 := habs (p0, g) (by simp)
  have hcwd := (createDirAll_frame _ _ _ hd).2
  have hD := createDirAll_idem w.fs par fsD hd fsD hcwd fun _ h => h
  -- the first call makes the directories (`fsD`); it does to `w` what it does to `w` with the directories in place
  have h1 : runAllTo w ((p0, g) :: rest) = runAllTo { w with fs := fsD } ((p0, g) :: rest) := by
    simp only [runAllTo, exportTo_eq w g p0 path par fsD h0 hpar hd,
      exportTo_eq { w with fs := fsD } g p0 path par fsD (by rw [cwdStr, hcwd]; exact h0) hpar hD]
  obtain ⟨w', loc, hr, _, hres, hfs, _⟩ := history_canonical { w with fs := fsD } path _ (by simp) hok hp hreg
    ⟨[], exportTo_target_creatable w p0 path par fsD [] h0 hpar hd hfile⟩
  exact ⟨w', loc, by rw [h1, runAllTo_eq_runAll path par hpar w.fs _ _ hcwd hD habs]; exact hr, hres, hfs⟩

end TsRs
