import TsRsVerif.Props.C12
import TsRsVerif.Lemmas.DeInst
import TsRsVerif.Lemmas.MemberInd
import Std.Data.String.ToInt
import TsRsVerif.Lemmas.ListLemmas
/-! The completeness theorem proper: the readers of a TypeScript type (`Reads`), and one induction over the derivation of membership
(`member_reads`); the statements for the single readers and for the list-level judgments follow. -/
namespace TsRs
open Ts Tree Builtin De

/-- the key types of maps the acceptance model reads -/
def keyOk : RTy → Bool
  | .prim r => (match primClass r with
    | some (.int _ _ _) | some .string | some .char => true
    | _ => false)
  | _ => false

theorem tyOk_map {limit : Nat} {k v : RTy} (h : tyOk limit (.map k v) = true) : keyOk k = true ∧ tyOk limit v = true := by
  simp only [tyOk, Bool.and_eq_true] at h
  exact ⟨by unfold keyOk; exact h.1, h.2⟩

theorem accKey_member (D : Decls) (htab : TableOK) (k : RTy) (K : Ts) (key : Str) (limit : Nat) (nameN : Str → List Ts → Option Ts)
    (hk : keyOk k = true) (hK : nameTyB limit nameN k = some K)
    (h : KeyP (Member D) K key) : accKey k key ≤ 1 := by
  cases k with
  | prim r =>
    simp only [keyOk] at hk
    simp only [nameTyB] at hK
    cases hcl : primClass r with
    | none => simp [hcl] at hk
    | some c =>
      simp only [hcl] at hk
      cases c with
      | int lo hi nz =>
        simp only [accKey, hcl]
        rcases h with h | ⟨i, hi1, hi2⟩
        · have := accPrim_member D htab r _ K _ hcl hK h
          simp [accPrim] at this
        · have hp : (String.ofList key).toInt? = some i := by
            rw [← hi1]; simp
          simp only [hp, hi1, if_true]
          split <;> omega
      | string => simp [accKey, hcl]
      | char =>
        simp only [accKey, hcl]
        split <;> omega
      | float | bool | unit => simp at hk
  | _ => simp [keyOk] at hk

abbrev accNf (cfg : Cfg) (env : Env) (f : Nat) : Str → List RTy → JVal → Nat := fun id args j => De.accItem cfg env f id args j

section
variable (limit : Nat) (nameN : Str → List Ts → Option Ts)

/-- the wrapper-free closed type expressions `t0` whose TypeScript type is `T`, by the shape of `T` (`False` for a shape no type has) -/
def TyInv (t0 : RTy) : Ts → Prop
  | T@.number | T@.bigint | T@.string | T@.boolean | T@.null => ∃ r, t0 = .prim r ∧ primTs r = some T
  | .union xs =>
    (∃ u X, t0 = .option u ∧ nameTyB limit nameN u = some X ∧ tyOk limit u = true ∧ xs = [X, .null]) ∨
    (∃ a b A B, t0 = .result a b ∧ nameTyB limit nameN a = some A ∧ nameTyB limit nameN b = some B ∧ tyOk limit a = true ∧ tyOk limit b = true ∧
      xs = [.obj [({ name := "Ok".toList }, A)], .obj [({ name := "Err".toList }, B)]])
  | .array X => ∃ u, (t0 = .vec u ∨ t0 = .slice u ∨ t0 = .set u) ∧ nameTyB limit nameN u = some X ∧ tyOk limit u = true
  | .tuple Xs =>
    (∃ u n X, t0 = .arr u n ∧ nameTyB limit nameN u = some X ∧ Xs = List.replicate n X ∧ tyOk limit u = true) ∨
    (∃ ts, t0 = .tuple ts ∧ nameTyBL limit nameN ts = some Xs ∧ tyOkL limit ts = true)
  | .mapped K V => ∃ k v, t0 = .map k v ∧ nameTyB limit nameN k = some K ∧ nameTyB limit nameN v = some V ∧ keyOk k = true ∧ tyOk limit v = true
  | .obj fs => ∃ u X, t0 = .range u ∧ nameTyB limit nameN u = some X ∧ tyOk limit u = true ∧
      fs = [({ name := "start".toList }, X), ({ name := "end".toList }, X)]
  | .ref n xs => ∃ id args targs, t0 = .named id args ∧ tyOkL limit args = true ∧ nameTyBL limit nameN args = some targs ∧
      nameN id targs = some (.ref n xs)
  | _ => False

variable {limit nameN}

theorem tyInv (hN : ∀ id xs T, nameN id xs = some T → ∃ n, T = .ref n xs) {t0 : RTy} {T : Ts}
    (h : nameTyB limit nameN t0 = some T) (hnw : ∀ w u, t0 ≠ .wrap w u) (hok : tyOk limit t0 = true) : TyInv limit nameN t0 T := by
  cases t0 with
  | wrap w u => exact absurd rfl (hnw w u)
  | param n => simp [tyOk] at hok
  | prim r =>
    have h' : primTs r = some T := h
    rcases primTs_cases h' with rfl | rfl | rfl | rfl | rfl <;> exact ⟨r, rfl, h'⟩
  | named id args =>
    obtain ⟨targs, ha, hT⟩ := Option.bind_eq_some_iff.mp (show (nameTyBL limit nameN args).bind (nameN id) = some T from h)
    obtain ⟨n, rfl⟩ := hN id targs T hT
    exact ⟨id, args, targs, rfl, hok, ha, hT⟩
  | option u =>
    obtain ⟨X, hX, rfl⟩ := Option.map_eq_some_iff.mp (show (nameTyB limit nameN u).map _ = some T from h)
    exact Or.inl ⟨u, X, rfl, hX, hok, rfl⟩
  | vec u | slice u | set u =>
    obtain ⟨X, hX, rfl⟩ := Option.map_eq_some_iff.mp (show (nameTyB limit nameN u).map _ = some T from h)
    exact ⟨u, by simp, hX, hok⟩
  | arr u n =>
    obtain ⟨X, hX, rfl⟩ := Option.map_eq_some_iff.mp (show (nameTyB limit nameN u).map _ = some T from h)
    simp only [tyOk, Bool.and_eq_true, decide_eq_true_eq] at hok
    rw [if_neg (by omega)]
    exact Or.inl ⟨u, n, X, rfl, hX, rfl, hok.2⟩
  | tuple ts =>
    obtain ⟨Xs, hXs, rfl⟩ := Option.map_eq_some_iff.mp (show (nameTyBL limit nameN ts).map _ = some T from h)
    exact Or.inr ⟨ts, rfl, hXs, hok⟩
  | range u =>
    obtain ⟨X, hX, rfl⟩ := Option.map_eq_some_iff.mp (show (nameTyB limit nameN u).map _ = some T from h)
    exact ⟨u, X, rfl, hX, hok, rfl⟩
  | map k v =>
    obtain ⟨K, hK, h2⟩ := Option.bind_eq_some_iff.mp (show (nameTyB limit nameN k).bind _ = some T from h)
    obtain ⟨V, hV, h3⟩ := Option.bind_eq_some_iff.mp h2
    cases h3
    exact ⟨k, v, rfl, hK, hV, (tyOk_map hok).1, (tyOk_map hok).2⟩
  | result a b =>
    obtain ⟨A, hA, h2⟩ := Option.bind_eq_some_iff.mp (show (nameTyB limit nameN a).bind _ = some T from h)
    obtain ⟨B, hB, h3⟩ := Option.bind_eq_some_iff.mp h2
    cases h3
    simp only [tyOk, Bool.and_eq_true] at hok
    exact Or.inr ⟨a, b, A, B, rfl, hA, hB, hok.1, hok.2, rfl⟩
end

section
variable (it : Item) (hiu : it.attr.untagged = false) (hvu : ∀ v ∈ it.variants, v.attr.untagged = false)
include hiu hvu

theorem live_untagged_nil :
    ((it.variants.filter fun v => !v.attr.skip).filter fun v => v.attr.untagged || it.attr.untagged) = [] := by
  rw [List.filter_eq_nil_iff]
  intro v hv
  simp [hvu v (List.mem_filter.mp hv).1, hiu]

theorem live_tagged_all :
    ((it.variants.filter fun v => !v.attr.skip).filter fun v => !(v.attr.untagged || it.attr.untagged)) = (it.variants.filter fun v => !v.attr.skip) := by
  rw [List.filter_eq_self]
  intro v hv
  simp [hvu v (List.mem_filter.mp hv).1, hiu]
end

/-- what the proof needs of an enum (an item of the program, or the instance of a generic one) -/
def ItemF (cfg : Cfg) (it : Item) : Prop :=
  it.attr.untagged = false ∧
  (∀ v ∈ it.variants, v.attr.untagged = false ∧ v.fields.all (fieldTyOk cfg) = true) ∧
  ((it.variants.filter fun v => !v.attr.skip).map (Serde.variantKey cfg it.attr.renameAll)).Nodup ∧
  (it.isEnum = true → ∀ v ∈ it.variants, variantOk cfg it v = true)

section
variable {cfg : Cfg} (env : Env) {it : Item} {var : Variant} (hI : ItemF cfg it) (hmem : var ∈ it.variants) (hsk : var.attr.skip = false)
include hI hmem hsk

theorem live_find :
    (it.variants.filter fun v => !v.attr.skip).find? (fun v => Serde.variantKey cfg it.attr.renameAll v = Serde.variantKey cfg it.attr.renameAll var) = some var :=
  (find?_key_eq_some_iff hI.2.2.1).mpr ⟨List.mem_filter.mpr ⟨hmem, by simp [hsk]⟩, rfl⟩

theorem accEnum_ext_unit (f : Nat) (htg : Derive.tagged it.attr = .externally) (hu : var.unitLike = true) :
    accEnum cfg env (f + 1) it [] (.str (Serde.variantKey cfg it.attr.renameAll var)) = 0 := by
  show List.foldl _ _ (List.filter _ (List.filter _ it.variants)) = _
  rw [live_untagged_nil it hI.1 fun v hv => (hI.2.1 v hv).1, live_tagged_all it hI.1 fun v hv => (hI.2.1 v hv).1]
  simp only [List.foldl_nil, htg, live_find hI hmem hsk, hu, if_true]

theorem accEnum_ext (f : Nat) (htg : Derive.tagged it.attr = .externally) (c : JVal) :
    accEnum cfg env (f + 1) it [] (.obj [(Serde.variantKey cfg it.attr.renameAll var, c)]) = accVariantContent cfg env f it [] var (some c) := by
  show List.foldl _ _ (List.filter _ (List.filter _ it.variants)) = _
  rw [live_untagged_nil it hI.1 fun v hv => (hI.2.1 v hv).1, live_tagged_all it hI.1 fun v hv => (hI.2.1 v hv).1]
  simp only [List.foldl_nil, htg, live_find hI hmem hsk]

theorem accEnum_adj (f : Nat) {t c : Str} (htg : Derive.tagged it.attr = .adjacently t c) (kvs : List (Str × JVal))
    (hl : JVal.lookup t kvs = some (.str (Serde.variantKey cfg it.attr.renameAll var))) :
    accEnum cfg env (f + 1) it [] (.obj kvs) = accVariantContent cfg env f it [] var (JVal.lookup c kvs) := by
  show List.foldl _ _ (List.filter _ (List.filter _ it.variants)) = _
  rw [live_untagged_nil it hI.1 fun v hv => (hI.2.1 v hv).1, live_tagged_all it hI.1 fun v hv => (hI.2.1 v hv).1]
  simp only [List.foldl_nil, htg, hl, live_find hI hmem hsk]

theorem accEnum_int (f : Nat) {t : Str} (htg : Derive.tagged it.attr = .internally t) (kvs : List (Str × JVal))
    (hl : JVal.lookup t kvs = some (.str (Serde.variantKey cfg it.attr.renameAll var))) (hsh : var.unitLike = true ∨ var.shape = .named) :
    accEnum cfg env (f + 1) it [] (.obj kvs) =
      (if var.unitLike then 0 else accNamed cfg env f [] (Serde.renameAllS it var) var.fields kvs) := by
  show List.foldl _ _ (List.filter _ (List.filter _ it.variants)) = _
  rw [live_untagged_nil it hI.1 fun v hv => (hI.2.1 v hv).1, live_tagged_all it hI.1 fun v hv => (hI.2.1 v hv).1]
  simp only [List.foldl_nil, htg, hl, live_find hI hmem hsk]
  rcases hsh with h | h <;> simp [h]

end

/-- the enum without its `untagged` variants (same attributes) -/
def Item.taggedPart (it : Item) : Item := { it with variants := it.variants.filter fun v => !v.attr.untagged }

@[simp] theorem Item.taggedPart_attr (it : Item) : (Item.taggedPart it).attr = it.attr := rfl
@[simp] theorem Item.taggedPart_isEnum (it : Item) : (Item.taggedPart it).isEnum = it.isEnum := rfl

theorem foldl_min_le_init {α} (g : α → Nat) : ∀ (l : List α) (a : Nat), l.foldl (fun acc v => min acc (g v)) a ≤ a
  | [], a => Nat.le_refl a
  | x :: xs, a => Nat.le_trans (foldl_min_le_init g xs (min a (g x))) (Nat.min_le_left a (g x))

theorem foldl_min_le_mem {α} (g : α → Nat) : ∀ (l : List α) (a : Nat) (v : α), v ∈ l → l.foldl (fun acc v => min acc (g v)) a ≤ g v
  | x :: xs, a, v, hv => by
    rcases List.mem_cons.mp hv with rfl | hv
    · exact Nat.le_trans (foldl_min_le_init g xs (min a (g v))) (Nat.min_le_right a (g v))
    · exact foldl_min_le_mem g xs (min a (g x)) v hv

/-- reading a value as the enum is at least as permissive as reading it as its tagged part -/
theorem accEnum_le_tagged (cfg : Cfg) (env : Env) (it : Item) (hiu : it.attr.untagged = false) (j : JVal) :
    ∀ f, accEnum cfg env f it [] j ≤ accEnum cfg env f (Item.taggedPart it) [] j
  | 0 => Nat.le_refl _
  | f + 1 => by
    have hvu : ∀ v ∈ (Item.taggedPart it).variants, v.attr.untagged = false := fun v hv => by simpa using (List.mem_filter.mp hv).2
    have h1 := live_untagged_nil (Item.taggedPart it) hiu hvu
    have h2 : ((Item.taggedPart it).variants.filter fun v => !v.attr.skip).filter (fun v => !(v.attr.untagged || (Item.taggedPart it).attr.untagged))
        = (it.variants.filter fun v => !v.attr.skip).filter (fun v => !(v.attr.untagged || it.attr.untagged)) := by
      simp only [Item.taggedPart, List.filter_filter, hiu, Bool.or_false]
      congr 1
      funext v
      cases v.attr.untagged <;> cases v.attr.skip <;> rfl
    show List.foldl _ _ (List.filter _ (List.filter _ it.variants)) ≤ List.foldl _ _ (List.filter _ (List.filter _ (Item.taggedPart it).variants))
    rw [h1, h2]
    refine Nat.le_trans (foldl_min_le_init _ _ _) ?_
    -- what is read through the tag is the same by definition: the tagged part has the attributes of the enum
    cases f <;> exact Nat.le_refl _

/-- … and as permissive as any of its `untagged` variants -/
theorem accEnum_le_untagged (cfg : Cfg) (env : Env) (it : Item) (var : Variant) (hvm : var ∈ it.variants) (hsk : var.attr.skip = false)
    (hun : (var.attr.untagged || it.attr.untagged) = true) (j : JVal) (f : Nat) :
    accEnum cfg env (f + 1) it [] j ≤
      (if var.unitLike then (if isNull j then 0 else 3) else accVariantContent cfg env f it [] var (some j)) := by
  have hmem : var ∈ (it.variants.filter fun v => !v.attr.skip).filter (fun v => v.attr.untagged || it.attr.untagged) :=
    List.mem_filter.mpr ⟨List.mem_filter.mpr ⟨hvm, by simp [hsk]⟩, hun⟩
  refine Nat.le_trans (foldl_min_le_mem _ _ _ var hmem) ?_
  cases var.unitLike <;> exact Nat.le_refl _

theorem bodyOk_named {cfg : Cfg} {ra : Option Rule} {of : Opt} {tag : Option Str} {fields : List Field}
    (h : bodyOk cfg ra of tag .named fields = true) : fields.all (fieldOkN cfg ra of) = true := by
  simp only [bodyOk, beq_self_eq_true, if_true, Bool.and_eq_true] at h
  exact h.1

/-- what the fragment says about a variant, whatever its tagging -/
theorem variantOk_facts {cfg : Cfg} {it : Item} {var : Variant} (h : variantOk cfg it var = true) :
    Derive.variantTsName cfg it.attr.renameAll var = Serde.variantKey cfg it.attr.renameAll var ∧
    (var.shape = .named → renameAllT it var = Serde.renameAllS it var ∧ var.fields.all (fieldOkN cfg (renameAllT it var) .no) = true) ∧
    (∀ t c, var.attr.untagged = false → Derive.tagged it.attr = .adjacently t c → t ≠ c) := by
  simp only [variantOk, Bool.and_eq_true, beq_iff_eq, Bool.or_eq_true, bne_iff_ne, ne_eq] at h
  obtain ⟨⟨_, hname⟩, hra, hbody⟩ := h
  refine ⟨hname, fun hs => ⟨hra.resolve_left (not_not_intro hs), ?_⟩, fun t c hvu htg => ?_⟩
  · -- every tagging asks `bodyOk` of the fields
    rw [hs] at hbody
    split at hbody
    · exact bodyOk_named (Bool.and_eq_true_iff.mp hbody).2
    · exact bodyOk_named (Bool.and_eq_true_iff.mp hbody).2
    · exact bodyOk_named hbody
  · simp only [hvu, htg, Bool.false_eq_true, if_false, Bool.and_eq_true, bne_iff_ne, ne_eq] at hbody
    exact hbody.1

theorem accTy_good (cfg : Cfg) (env : Env) (t : RTy) (v : JVal) (h : Good (fun f => accB (accNf cfg env f) t v)) :
    Good (fun f => accTy cfg env f t v) :=
  h.step fun _ => Nat.le_refl _

/-- the same without any demand on `untagged` (what `gEnum` needs; the tagged part of such an enum satisfies `ItemF`) -/
def ItemG (cfg : Cfg) (it : Item) : Prop :=
  (∀ v ∈ it.variants, v.fields.all (fieldTyOk cfg) = true) ∧
  ((it.variants.filter fun v => !v.attr.skip).map (Serde.variantKey cfg it.attr.renameAll)).Nodup ∧
  (it.isEnum = true → ∀ v ∈ it.variants, variantOk cfg it v = true)

theorem frag_item (cfg : Cfg) (env : Env) (hF : deFragB cfg env = true) (it : Item) (hmem : it ∈ env) :
    it.fields.all (fieldTyOkP cfg (it.generics.map (·.name))) = true ∧
    (∀ v ∈ it.variants, v.fields.all (fieldTyOkP cfg (it.generics.map (·.name))) = true) ∧
    ((it.variants.filter fun v => !v.attr.skip).map (Serde.variantKey cfg it.attr.renameAll)).Nodup ∧
    (it.isEnum = true → ∀ v ∈ it.variants, variantOk cfg it v = true) ∧
    (it.isEnum = false → bodyOk cfg it.attr.renameAll it.attr.optionalFields it.attr.tag it.shape it.fields = true ∧
      (it.shape = .tuple → ∀ fld, it.fields = [fld] → fld.attr.skip = false)) ∧
    (env.map Derive.tsName).Nodup ∧ ∃ b, itemBody cfg env it = some b := by
  simp only [deFragB, Bool.and_eq_true, List.all_eq_true] at hF
  obtain ⟨hvok, hst, hts, hb⟩ := fragB_item hF.1 hmem
  have hde := hF.2 it hmem
  simp only [itemDeOk, Bool.and_eq_true, List.all_eq_true, decide_eq_true_eq] at hde
  exact ⟨List.all_eq_true.mpr hde.1.1, fun v hvm => List.all_eq_true.mpr (hde.1.2 v hvm), hde.2, hvok, hst, hts, hb⟩

/-- the instance of an item of the fragment (closed, readable arguments, one per parameter) has what the proof needs -/
theorem frag_inst (cfg : Cfg) (it : Item) (args : List RTy) (hlen : (it.generics.map (·.name)).length ≤ args.length)
    (hargs : tyOkL cfg.limit args = true)
    (hfty : it.fields.all (fieldTyOkP cfg (it.generics.map (·.name))) = true)
    (hvs : ∀ v ∈ it.variants, v.fields.all (fieldTyOkP cfg (it.generics.map (·.name))) = true)
    (hnd : ((it.variants.filter fun v => !v.attr.skip).map (Serde.variantKey cfg it.attr.renameAll)).Nodup)
    (hvok : it.isEnum = true → ∀ v ∈ it.variants, variantOk cfg it v = true)
    (hst : it.isEnum = false → bodyOk cfg it.attr.renameAll it.attr.optionalFields it.attr.tag it.shape it.fields = true ∧
      (it.shape = .tuple → ∀ fld, it.fields = [fld] → fld.attr.skip = false)) :
    ItemG cfg (Item.inst ((it.generics.map (·.name)).zip args) it) ∧
    (Item.inst ((it.generics.map (·.name)).zip args) it).fields.all (fieldTyOk cfg) = true ∧
    (it.isEnum = false → bodyOk cfg it.attr.renameAll it.attr.optionalFields it.attr.tag it.shape
        (Item.inst ((it.generics.map (·.name)).zip args) it).fields = true ∧
      (it.shape = .tuple → ∀ fld, (Item.inst ((it.generics.map (·.name)).zip args) it).fields = [fld] → fld.attr.skip = false)) := by
  refine ⟨⟨?_, ?_, ?_⟩, fieldsTyOk_inst cfg _ args hlen hargs it.fields hfty, fun hen => ?_⟩
  · exact List.forall_mem_map.mpr fun v hv => fieldsTyOk_inst cfg _ args hlen hargs v.fields (hvs v hv)
  · rw [Item.inst_variants, Item.inst_attr, filter_inst _ (fun a => !a.skip), List.map_map]
    exact hnd
  · exact fun hen => List.forall_mem_map.mpr fun v hv => variantOk_inst _ cfg it v (hvok hen v hv)
  · refine ⟨bodyOk_inst _ cfg _ _ _ _ _ (hst hen).1, fun hs fld hfl => ?_⟩
    obtain ⟨f0, hf0, rfl⟩ := List.map_eq_singleton_iff.mp hfl
    exact (hst hen).2 hs f0 hf0

theorem keys_single {fs : List (TsKey × Ts)} {kvs : List (Str × JVal)} {K : TsKey} {T : Ts}
    (hk : ∀ k ∈ JVal.keys kvs, ∃ f ∈ fs, f.1.name = k) (hfs : fs = [(K, T)]) : ∀ k ∈ kvs.map (·.1), k = K.name := by
  intro k hkm
  obtain ⟨f, hf, hn⟩ := hk k hkm
  rw [hfs] at hf
  simp only [List.mem_singleton] at hf
  rw [← hn, hf]

theorem wfJ_arr {js : List JVal} (h : wfJ (.arr js) = true) : wfJL js = true := by simpa [wfJ] using h

section
variable (cfg : Cfg) (env : Env)

/-- every Rust-side reading of the TypeScript type `T` accepts `j` up to leaves, for all sufficient fuel: as the type of a type
expression, as a struct body, as the arm of a tagged variant, as the union of an enum, as one arm `{ K: A }` of a `Result` -/
structure Reads (T : Ts) (j : JVal) : Prop where
  ty : ∀ (t : RTy), tyTs cfg env t = some T → tyOk cfg.limit t = true → Good (fun f => accB (accNf cfg env f) t j)
  body : ∀ (ra raS : Option Rule) (of : Opt) (tag : Option (Str × Str)) (tagS : Option Str) (shape : Shape) (fields : List Field),
    structBody cfg env ra of tag shape fields = some T → (shape = .named → raS = ra) →
    (shape = .tuple → ∀ fld, fields = [fld] → fld.attr.skip = false) →
    (shape = .named → fields.all (fieldOkN cfg ra of) = true) → fields.all (fieldTyOk cfg) = true →
    Good (fun f => accBody cfg env f [] raS tagS shape fields j)
  variant : ∀ (it : Item) (var : Variant), variantTs cfg env it var = some T → ItemF cfg it → var ∈ it.variants → var.attr.skip = false →
    it.isEnum = true → Good (fun f => accEnum cfg env f it [] j)
  enum : ∀ (it : Item) (arms : List Ts), T = .union arms → variantsTs cfg env it it.variants = some arms → ItemG cfg it → it.isEnum = true →
    Good (fun f => accEnum cfg env f it [] j)
  obj1 : ∀ (K : TsKey) (A : Ts) (a : RTy), T = .obj [(K, A)] → K.optional = false → tyTs cfg env a = some A → tyOk cfg.limit a = true →
    ∃ v, j = .obj [(K.name, v)] ∧ Good (fun f => accB (accNf cfg env f) a v)

variable {cfg env}

/-- the same from the inverted side: what has to be shown for each Rust-side thing that has the type `T`. A reader left out is
one that no `T` of this shape has (`TyInv` is `False` there, `BodyCase.head`, `VariantCase.head`): its default elaborates only
at a call where `T` has such a shape, so a reader that is left out where it exists is an error at that call, not a gap. -/
theorem Reads.of_inv {T : Ts} {j : JVal}
    (ty : ∀ t0, TyInv cfg.limit (nameN env) t0 T → tyOk cfg.limit t0 = true → Good (fun f => accB (accNf cfg env f) t0 j) := by
      exact fun _ h => h.elim)
    (body : ∀ ra raS of tag shape fields, BodyCase cfg env ra of tag shape fields T → (shape = .named → raS = ra) →
      (shape = .named → fields.all (fieldOkN cfg ra of) = true) → fields.all (fieldTyOk cfg) = true →
      ∀ tagS, Good (fun f => accBody cfg env f [] raS tagS shape fields j) := by exact fun _ _ _ _ _ _ h => h.head.elim)
    (variant : ∀ it var, VariantCase cfg env it var T → ItemF cfg it → var ∈ it.variants → var.attr.skip = false → it.isEnum = true →
      Good (fun f => accEnum cfg env f it [] j) := by exact fun _ _ h => h.head.elim)
    (enum : ∀ (it : Item) (arms : List Ts), T = .union arms → variantsTs cfg env it it.variants = some arms → ItemG cfg it → it.isEnum = true →
      Good (fun f => accEnum cfg env f it [] j) := by exact fun _ _ e => nomatch e)
    (obj1 : ∀ (K : TsKey) (A : Ts) (a : RTy), T = .obj [(K, A)] → K.optional = false → tyTs cfg env a = some A → tyOk cfg.limit a = true →
      ∃ v, j = .obj [(K.name, v)] ∧ Good (fun f => accB (accNf cfg env f) a v) := by exact fun _ _ _ e => nomatch e) : Reads cfg env T j := by
  have hty : ∀ t, tyTs cfg env t = some T → tyOk cfg.limit t = true → Good (fun f => accB (accNf cfg env f) t j) := by
    intro t hT hok
    -- strip the wrappers: neither the verdict nor the TypeScript type changes
    have spec := fun f => unwrapTy_spec cfg.limit (nameN env) (accNf cfg env f) j t hok
    obtain ⟨hT0, -, hok0, hnw⟩ := spec 0
    have hN : ∀ id xs T, nameN env id xs = some T → ∃ n, T = .ref n xs := fun _ _ _ h => let ⟨_, _, _, e⟩ := nameN_eq_some.mp h; ⟨_, e⟩
    exact (ty _ (tyInv hN (hT0.trans hT) hnw hok0) hok0).congr fun f => (spec f).2.1.symm
  refine ⟨hty, fun ra raS of tag tagS shape fields hB hra hns hok hf => ?_, fun it var hA hI hvm hsk hen => ?_, enum, obj1⟩
  · rcases structBody_eq_some.mp hB with ⟨fld, rfl, rfl, hT⟩ | hc
    · -- a newtype is transparent: its field's type reads the value
      have hsk := hns rfl fld rfl
      exact (accTy_good cfg env fld.ty j (hty fld.ty (by simpa [hsk] using hT) (by simpa [fieldTyOk, hsk] using hf))).step
        fun f => by simp [accBody, rsubst_nil]
    · exact body ra raS of tag shape fields hc hra hok hf tagS
  · rcases variantTs_eq_some.mp hA with ⟨hun, _⟩ | ⟨_, hV⟩
    · simp [(hI.2.1 var hvm).1, hI.1] at hun
    · exact variant it var hV hI hvm hsk hen
end

section
variable (cfg : Cfg) (env : Env)

/-- what the induction knows of a sub-derivation: the membership itself and, if the value has distinct keys, its readers -/
def Rd (T : Ts) (j : JVal) : Prop := Member (declsOf cfg env) T j ∧ (wfJ j = true → Reads cfg env T j)

variable {cfg env}

theorem all_reads {u : RTy} {X : Ts} (hX : tyTs cfg env u = some X) (hok : tyOk cfg.limit u = true) : ∀ {js : List JVal},
    AllP (Rd cfg env) X js → wfJL js = true → Good (fun f => accAllB (accNf cfg env f) u js)
  | [], _, _ => ⟨0, fun f _ => by simp [accAllB]⟩
  | j :: js, h, hw => by
    simp only [wfJL, Bool.and_eq_true] at hw
    exact Good.congr (Good.max (((h j (List.mem_cons_self)).2 hw.1).ty u hX hok) (all_reads hX hok (fun j' hj' => h j' (List.mem_cons_of_mem _ hj')) hw.2))
      (fun f => by simp [accAllB])

theorem rep_reads {u : RTy} {X : Ts} (hX : tyTs cfg env u = some X) (hok : tyOk cfg.limit u = true) : ∀ (n : Nat) {js : List JVal},
    ZipP (Rd cfg env) (List.replicate n X) js → wfJL js = true → js.length = n ∧ Good (fun f => accAllB (accNf cfg env f) u js)
  | 0, [], _, _ => ⟨rfl, ⟨0, fun f _ => by simp [accAllB]⟩⟩
  | 0, _ :: _, h, _ => h.elim
  | _ + 1, [], h, _ => h.elim
  | n + 1, j :: js, h, hw => by
    simp only [wfJL, Bool.and_eq_true] at hw
    obtain ⟨hlen, hg⟩ := rep_reads hX hok n h.2 hw.2
    exact ⟨by simp [hlen], Good.congr (Good.max ((h.1.2 hw.1).ty u hX hok) hg) (fun f => by simp [accAllB])⟩

theorem zip_reads : ∀ (ts : List RTy) {Xs : List Ts} {js : List JVal}, nameTyBL cfg.limit (nameN env) ts = some Xs → tyOkL cfg.limit ts = true →
    ZipP (Rd cfg env) Xs js → wfJL js = true → Good (fun f => accZipB (accNf cfg env f) ts js)
  | [], _, [] => fun hXs _ _ _ => by cases hXs; exact ⟨0, fun f _ => by simp [accZipB]⟩
  | [], _, _ :: _ => fun hXs _ h _ => by cases hXs; exact h.elim
  | t :: ts, Xs, js => fun hXs hok h hw => by
    obtain ⟨X, Xr, hX, hXr, rfl⟩ := nameTyBL_cons.mp hXs
    simp only [tyOkL, Bool.and_eq_true] at hok
    cases js with
    | nil => exact h.elim
    | cons j js =>
      simp only [wfJL, Bool.and_eq_true] at hw
      exact Good.congr (Good.max ((h.1.2 hw.1).ty t hX hok.1) (zip_reads ts hXr hok.2 h.2 hw.2)) (fun f => by simp [accZipB])

theorem map_reads {k v : RTy} {K V : Ts} (hK : tyTs cfg env k = some K) (hkk : keyOk k = true) (hV : tyTs cfg env v = some V)
    (hokv : tyOk cfg.limit v = true) : ∀ {kvs : List (Str × JVal)}, MapP (Rd cfg env) K V kvs → wfJF kvs = true →
    Good (fun f => accMapB (accNf cfg env f) k v kvs)
  | [], _, _ => ⟨0, fun f _ => by simp [accMapB]⟩
  | (key, val) :: kvs, h, hw => by
    simp only [wfJF, Bool.and_eq_true] at hw
    obtain ⟨hkey, hval⟩ := h (key, val) (List.mem_cons_self)
    have hk1 := accKey_member (declsOf cfg env) C12_tableOK k K key cfg.limit (nameN env) hkk hK (hkey.imp fun _ => And.left)
    exact Good.congr (Good.max (Good.max (Good.const hk1) ((hval.2 hw.1).ty v hV hokv))
      (map_reads hK hkk hV hokv (fun p hp => h p (List.mem_cons_of_mem _ hp)) hw.2)) (fun f => by simp [accMapB])

/-- the fields of a tuple struct / tuple variant, as `tupleTs` goes through them: a skipped field reads nothing -/
theorem tupleF_reads {fields : List Field} {Xs : List Ts} (hXs : tupleTs cfg env fields = some Xs) : ∀ {js : List JVal},
    ZipP (Rd cfg env) Xs js → fields.all (fieldTyOk cfg) = true → wfJL js = true → Good (fun f => accTuple cfg env f [] fields js) := by
  refine keepM_induct (motive := fun fields Xs => ∀ {js : List JVal}, ZipP (Rd cfg env) Xs js → fields.all (fieldTyOk cfg) = true →
    wfJL js = true → Good (fun f => accTuple cfg env f [] fields js)) ?_ ?_ ?_ (tupleTs_eq .. ▸ hXs)
  · intro js h _ _
    cases js with
    | nil => exact Good.zero fun _ => rfl
    | cons _ _ => exact h.elim
  · intro fld fs Xs hsk _ ih js h hty hw
    simp only [List.all_cons, Bool.and_eq_true] at hty
    exact (ih h hty.2 hw).step fun f => by simp [accTuple, hsk]
  · intro fld fs T Xs hsk hT _ ih js h hty hw
    simp only [List.all_cons, Bool.and_eq_true] at hty
    cases js with
    | nil => exact h.elim
    | cons v js =>
      simp only [wfJL, Bool.and_eq_true] at hw
      exact (Good.max (accTy_good cfg env fld.ty v ((h.1.2 hw.1).ty fld.ty hT (by simpa [fieldTyOk, hsk] using hty.1))) (ih h.2 hty.2 hw.2)).step
        fun f => by simp [accTuple, hsk, rsubst_nil]

/-- the named fields of a struct / struct variant, as `fieldsTs` goes through them: each property that is not skipped is among the
declared ones, so it is present with a good value, or optional and absent -/
theorem named_reads (ra : Option Rule) (of : Opt) {kvs : List (Str × JVal)} (hw : wfJF kvs = true) {fields : List Field} {fs : List (TsKey × Ts)}
    (hfs : fieldsTs cfg env ra of fields = some fs) : FieldsP (Rd cfg env) fs kvs → fields.all (fieldOkN cfg ra of) = true →
    fields.all (fieldTyOk cfg) = true → Good (fun f => accNamed cfg env f [] ra fields kvs) := by
  refine keepM_induct (motive := fun fields fs => FieldsP (Rd cfg env) fs kvs → fields.all (fieldOkN cfg ra of) = true →
    fields.all (fieldTyOk cfg) = true → Good (fun f => accNamed cfg env f [] ra fields kvs)) ?_ ?_ ?_ (fieldsTs_eq .. ▸ hfs)
  · exact fun _ _ _ => Good.zero fun _ => rfl
  · intro fld rest fs hsk _ ih h hok hty
    simp only [List.all_cons, Bool.and_eq_true] at hok hty
    exact (ih h hok.2 hty.2).step fun f => by simp [accNamed, hsk]
  · intro fld rest p fs hsk hp _ ih h hok hty
    simp only [List.all_cons, Bool.and_eq_true] at hok hty
    obtain ⟨T, hT, rfl⟩ := Option.map_eq_some_iff.mp hp
    have gm := ih (fun p hp => h p (List.mem_cons_of_mem _ hp)) hok.2 hty.2
    have hokf := (fieldOkN_iff hsk).mp hok.1
    have htyf : tyOk cfg.limit fld.ty = true := by simpa [fieldTyOk, hsk] using hty.1
    rcases h _ (List.mem_cons_self) with ⟨v, hl, _, hv⟩ | ⟨hl, ho⟩
    · have hlk : JVal.lookup (Serde.fieldKey cfg ra fld) kvs = some v := by rw [← hokf.key]; exact hl
      have rv := hv (wfJF_lookup hw hl)
      have gv : Good (fun f => accB (accNf cfg env f) fld.ty v) := by
        rcases fieldTy_cases of fld with e | ⟨u, hu, e, _, _⟩ <;> rw [e] at hT
        · exact rv.ty fld.ty hT htyf
        · -- the property shows the type under the `Option`: `null` is read as `None`, anything else by that type
          rw [hu] at htyf ⊢
          by_cases hn : isNull v = true
          · exact (Good.const (Nat.zero_le 1)).congr fun f => by simp [accB, hn]
          · exact (rv.ty u hT (by simpa [tyOk] using htyf)).congr fun f => by simp [accB, hn]
      exact (Good.max (accTy_good cfg env fld.ty v gv) gm).step fun f => by simp [accNamed, hsk, hokf.flatten, hlk, rsubst_nil]
    · obtain ⟨u, hu⟩ := isOption_cases fld.ty (hokf.option.resolve_left (by rw [show (optMode of fld).1 = true from ho]; simp))
      have hlk : JVal.lookup (Serde.fieldKey cfg ra fld) kvs = none := by rw [← hokf.key]; exact hl
      exact gm.step fun f => by simp [accNamed, hsk, hokf.flatten, hlk, rsubst_nil, missingOk, hu]

theorem prim_reads {T : Ts} {j : JVal} (m : Member (declsOf cfg env) T j) {t0 : RTy} (h : ∃ r, t0 = .prim r ∧ primTs r = some T)
    (hok : tyOk cfg.limit t0 = true) : Good (fun f => accB (accNf cfg env f) t0 j) := by
  obtain ⟨r, rfl, hr⟩ := h
  obtain ⟨c, hcl⟩ := Option.isSome_iff_exists.mp (show (primClass r).isSome = true from hok)
  exact Good.congr (Good.const (accPrim_member (declsOf cfg env) C12_tableOK r c _ _ hcl hr m)) (fun f => by simp [accB, hcl])

theorem FieldsP.required {fs : List (TsKey × Ts)} {kvs : List (Str × JVal)} (h : FieldsP (Rd cfg env) fs kvs) (hw : wfJF kvs = true)
    {K : TsKey} {A : Ts} (hm : (K, A) ∈ fs) (hreq : K.optional = false) :
    ∃ v, JVal.lookup K.name kvs = some v ∧ Member (declsOf cfg env) A v ∧ Reads cfg env A v := by
  rcases h _ hm with ⟨v, hl, m, r⟩ | ⟨_, ho⟩
  · exact ⟨v, hl, m, r (wfJF_lookup hw hl)⟩
  · rw [hreq] at ho; cases ho

theorem content_reads {it : Item} {var : Variant} {C : Ts} {v : JVal} (r : Reads cfg env C v)
    (hC : structBody cfg env (renameAllT it var) .no none var.shape var.fields = some C) (hu : var.unitLike = false)
    (hok : variantOk cfg it var = true) (hvty : var.fields.all (fieldTyOk cfg) = true) :
    Good (fun f => accVariantContent cfg env f it [] var (some v)) :=
  have hn := (variantOk_facts hok).2.1
  (r.body (renameAllT it var) (Serde.renameAllS it var) .no none none var.shape var.fields hC (fun hs => (hn hs).1.symm)
    (fun hs _ hfs => newtype_kept hu hs hfs) (fun hs => (hn hs).2) hvty).step fun f => by simp [accVariantContent, hu]

section obj
variable {fs : List (TsKey × Ts)} {kvs : List (Str × JVal)} (ih : FieldsP (Rd cfg env) fs kvs)
  (hk : ∀ k ∈ JVal.keys kvs, ∃ f ∈ fs, f.1.name = k) (hw : wfJ (.obj kvs) = true)
include ih hw

/-- `{ start: X, end: X }` -/
theorem obj_ty {t0 : RTy} (h : TyInv cfg.limit (nameN env) t0 (.obj fs)) : Good (fun f => accB (accNf cfg env f) t0 (.obj kvs)) := by
  obtain ⟨u, X, rfl, hX, hoku, rfl⟩ := h
  obtain ⟨v1, hl1, _, r1⟩ := FieldsP.required ih (wfJ_obj hw).2 (List.mem_cons_self) rfl
  obtain ⟨v2, hl2, _, r2⟩ := FieldsP.required ih (wfJ_obj hw).2 (List.mem_cons_of_mem _ (List.mem_cons_self)) rfl
  exact Good.congr (Good.max (r1.ty u hX hoku) (r2.ty u hX hoku)) (fun f => by simp only [accB]; rw [hl1, hl2])

theorem obj_body {ra raS : Option Rule} {of : Opt} {tag : Option (Str × Str)} {shape : Shape} {fields : List Field}
    (h : BodyCase cfg env ra of tag shape fields (.obj fs)) (hra : shape = .named → raS = ra)
    (hok : shape = .named → fields.all (fieldOkN cfg ra of) = true) (hty : fields.all (fieldTyOk cfg) = true)
    (tagS : Option Str) : Good (fun f => accBody cfg env f [] raS tagS shape fields (.obj kvs)) := by
  cases h with
  | named _ hfs =>
    rw [hra rfl]
    exact (named_reads ra of (wfJ_obj hw).2 hfs (fun p hp => ih p (List.mem_append_right _ hp)) (hok rfl) hty).step fun _ => Nat.le_refl _

include hk

theorem obj_obj1 (K : TsKey) (A : Ts) (a : RTy) (hT : Ts.obj fs = .obj [(K, A)]) (hreq : K.optional = false) (hA : tyTs cfg env a = some A)
    (hoka : tyOk cfg.limit a = true) : ∃ v, JVal.obj kvs = .obj [(K.name, v)] ∧ Good (fun f => accB (accNf cfg env f) a v) := by
  cases hT
  obtain ⟨v, hl, _, r⟩ := FieldsP.required ih (wfJ_obj hw).2 (List.mem_cons_self) hreq
  rw [single_key (keys_single hk rfl) (wfJ_obj hw).1 hl]
  exact ⟨v, rfl, r.ty a hA hoka⟩

/-- the arm of a tagged variant that is an object: externally tagged with content, adjacently / internally tagged -/
theorem obj_variant {it : Item} {var : Variant} (h : VariantCase cfg env it var (.obj fs)) (hI : ItemF cfg it) (hvm : var ∈ it.variants)
    (hsk : var.attr.skip = false) (hen : it.isEnum = true) : Good (fun f => accEnum cfg env f it [] (.obj kvs)) := by
  have hvty := (hI.2.1 var hvm).2
  have hok := hI.2.2.2 hen var hvm
  obtain ⟨hname, hn, htc⟩ := variantOk_facts hok
  obtain ⟨hkn, hwf⟩ := wfJ_obj hw
  -- the tag property holds the variant's key
  have htag : ∀ {t : Str} {ps : List (TsKey × Ts)}, fs = ({ name := t }, .lit (Derive.variantTsName cfg it.attr.renameAll var)) :: ps →
      JVal.lookup t kvs = some (.str (Serde.variantKey cfg it.attr.renameAll var)) := by
    rintro t ps rfl
    obtain ⟨v1, hl1, m1, _⟩ := FieldsP.required ih hwf (List.mem_cons_self) rfl
    cases m1
    rw [← hname]; exact hl1
  cases h with
  | ext htg hu hC =>
    obtain ⟨v1, hl1, _, r1⟩ := FieldsP.required ih hwf (List.mem_cons_self) rfl
    rw [single_key (keys_single hk rfl) hkn hl1]
    simp only [hname]
    exact (content_reads r1 hC hu hok hvty).step fun f => by rw [accEnum_ext env hI hvm hsk f htg]; exact Nat.le_refl _
  | @adjUnit t c htg hu =>
    have hlc : JVal.lookup c kvs = none :=
      lookup_eq_none_iff.mpr fun h => htc t c (hI.2.1 var hvm).1 htg (keys_single hk rfl c h).symm
    exact Good.step (Good.zero (X := fun f => accVariantContent cfg env f it [] var none) (fun f => by simp [accVariantContent, hu]))
      fun f => by rw [accEnum_adj env hI hvm hsk f htg kvs (htag rfl), hlc]; exact Nat.le_refl _
  | adj htg hu hC =>
    obtain ⟨v2, hl2, _, r2⟩ := FieldsP.required ih hwf (List.mem_cons_of_mem _ (List.mem_cons_self)) rfl
    exact (content_reads r2 hC hu hok hvty).step
      fun f => by rw [accEnum_adj env hI hvm hsk f htg kvs (htag rfl), hl2]; exact Nat.le_refl _
  | intUnit htg hu =>
    exact Good.zero fun f => by rw [accEnum_int env hI hvm hsk f htg kvs (htag rfl) (Or.inl hu)]; simp [hu]
  | int htg hu hs hfs =>
    exact (named_reads _ .no hwf hfs (fun p hp => ih p (List.mem_cons_of_mem _ hp)) (hn hs).2 hvty).step
      fun f => by rw [accEnum_int env hI hvm hsk f htg kvs (htag rfl) (Or.inr hs), ← (hn hs).1]; simp [hu]
end obj

section union
variable {xs : List Ts} {arm : Ts} {j : JVal} (hmem : arm ∈ xs) (m' : Member (declsOf cfg env) arm j) (r : Reads cfg env arm j)
include hmem m' r

/-- `Option<u>` and `Result<a, b>` -/
theorem union_ty {t0 : RTy} (h : TyInv cfg.limit (nameN env) t0 (.union xs)) : Good (fun f => accB (accNf cfg env f) t0 j) := by
  rcases h with ⟨u, X, rfl, hX, hoku, rfl⟩ | ⟨a, b, A, B, rfl, hA, hB, hoka, hokb, rfl⟩
  · by_cases hn : isNull j = true
    · exact Good.congr (Good.const (Nat.zero_le 1)) (fun f => by simp [accB, hn])
    · simp only [List.mem_cons, List.not_mem_nil, or_false] at hmem
      rcases hmem with rfl | rfl
      · exact Good.congr (r.ty u hX hoku) (fun f => by simp [accB, hn])
      · cases m'; exact absurd rfl hn
  · simp only [List.mem_cons, List.not_mem_nil, or_false] at hmem
    rcases hmem with rfl | rfl
    · obtain ⟨v, rfl, hg⟩ := r.obj1 _ A a rfl rfl hA hoka
      exact Good.congr hg (fun f => by simp [accB])
    · obtain ⟨v, rfl, hg⟩ := r.obj1 _ B b rfl rfl hB hokb
      exact Good.congr hg (fun f => by simp [accB])

/-- the union of an enum: the arm belongs to an `untagged` variant (serde tries these in turn), or to a variant of the tagged part -/
theorem union_enum (hw : wfJ j = true) {it : Item} (harms : variantsTs cfg env it it.variants = some xs) (hG : ItemG cfg it) (hen : it.isEnum = true) :
    Good (fun f => accEnum cfg env f it [] j) := by
  obtain ⟨var, hvm, hsk, hv⟩ := (keepM_mem (variantsTs_eq cfg env it _ ▸ harms) arm).mp hmem
  obtain ⟨hvty, hnd, hvok⟩ := hG
  rcases variantTs_eq_some.mp hv with ⟨hun, hC⟩ | ⟨hun, _⟩
  · cases hu : var.unitLike with
    | true =>
      rw [structBody_unitLike cfg env (renameAllT it var) var hu] at hC
      cases hC
      cases m'
      exact Good.step (Good.const (Nat.zero_le 1)) (fun f => Nat.le_trans (accEnum_le_untagged cfg env it var hvm hsk hun .null f) (by simp [hu, isNull]))
    | false =>
      exact Good.step (content_reads r hC hu (hvok hen var hvm) (hvty var hvm))
        (fun f => Nat.le_trans (accEnum_le_untagged cfg env it var hvm hsk hun j f) (by simp [hu]))
  · obtain ⟨hvu, hiu⟩ := Bool.or_eq_false_iff.mp hun
    have hF' : ItemF cfg (Item.taggedPart it) := by
      refine ⟨hiu, ?_, ?_, ?_⟩
      · intro v hv'
        have hv2 := List.mem_filter.mp hv'
        exact ⟨by simpa using hv2.2, hvty v hv2.1⟩
      · exact hnd.sublist (((List.filter_sublist).filter _).map _)
      · intro _ v hv'
        exact hvok hen v (List.mem_filter.mp hv').1
    exact Good.le (r.variant (Item.taggedPart it) var hv hF' (List.mem_filter.mpr ⟨hvm, by simp [hvu]⟩) hsk hen) (accEnum_le_tagged cfg env it hiu j)
end union

theorem item_reads {it : Item} {B : Ts} {j : JVal} (m : Member (declsOf cfg env) B j) (r : Reads cfg env B j)
    (hb : itemBody cfg env it = some B) (hG : ItemG cfg it) (hfty : it.fields.all (fieldTyOk cfg) = true)
    (hst : it.isEnum = false → bodyOk cfg it.attr.renameAll it.attr.optionalFields it.attr.tag it.shape it.fields = true ∧
      (it.shape = .tuple → ∀ fld, it.fields = [fld] → fld.attr.skip = false)) :
    Good (fun f => if it.isEnum then accEnum cfg env f it [] j else accBody cfg env f [] it.attr.renameAll it.attr.tag it.shape it.fields j) := by
  rw [itemBody_eq_some] at hb
  cases hen : it.isEnum with
  | true =>
    simp only [hen, if_true] at hb ⊢
    obtain ⟨arms, harms, rfl⟩ := hb
    split at m
    · cases m
    · exact r.enum it arms (if_neg ‹_›) harms hG hen
  | false =>
    simp only [hen, Bool.false_eq_true, if_false] at hb ⊢
    exact r.body _ _ _ _ it.attr.tag it.shape it.fields hb (fun _ => rfl) (hst hen).2 (fun hs => bodyOk_named (hs ▸ (hst hen).1)) hfty

/-- a reference `Name<args>`: the value is read as the instance of the item, whose body is the declared body at the argument names -/
theorem ref_ty (hF : deFragB cfg env = true) {n : Str} {xs : List Ts} {ps : List Str} {body : Ts} {j : JVal}
    (hl : lookupDecl (declsOf cfg env) n = some (ps, body)) (m' : Member (declsOf cfg env) (subst (ps.zip xs) body) j)
    (r : Reads cfg env (subst (ps.zip xs) body) j) {t0 : RTy} (h : TyInv cfg.limit (nameN env) t0 (.ref n xs)) :
    Good (fun f => accB (accNf cfg env f) t0 j) := by
  obtain ⟨id, args, targs, rfl, hokargs, hargs, hN⟩ := h
  obtain ⟨it, hfind, hlen, e⟩ := nameN_eq_some.mp hN
  cases e
  obtain ⟨hfty, hvs, hnd, hvok, hst, hts, b, hb⟩ := frag_item cfg env hF it (List.mem_of_find?_eq_some hfind)
  have hlook : lookupDecl (declsOf cfg env) (Derive.tsName it) = some (it.generics.map (·.name), b) :=
    lookup_decl_in cfg env env it b hts (List.mem_of_find?_eq_some hfind) hb
  rw [hl] at hlook
  cases hlook
  have hlen' : (it.generics.map (·.name)).length ≤ args.length :=
    Nat.le_of_eq (by rw [List.length_map, ← hlen, nameTyBL_length hargs])
  obtain ⟨hI, hfty', hst'⟩ := frag_inst cfg it args hlen' hokargs hfty hvs hnd hvok hst
  have hb' := itemBody_inst cfg env (it.generics.map (·.name)) args xs hargs it body hb
    (fun hen hs => bodyOk_named (hs ▸ (hst hen).1)) (fun hen v hv hs => ((variantOk_facts (hvok hen v hv)).2.1 hs).2)
  -- one unit of fuel: the item is found, the value is read as the instance
  refine (item_reads m' r hb' hI hfty' hst').step fun f => Nat.le_of_eq ?_
  simp only [accB, accNf, accItem, hfind, zip_map_names]
  rw [accEnum_inst cfg env _ it j f, accBody_inst cfg env _ it.attr.renameAll it.attr.tag it.shape it.fields j f]
  rfl

/-- **every member is read by every reader of its type**: induction over the membership derivation; the cases that take an argument
are `prim_reads`, `obj_*`, `union_*`, `ref_ty` above -/
theorem member_reads (hF : deFragB cfg env = true) {T : Ts} {j : JVal} (m : Member (declsOf cfg env) T j) : wfJ j = true → Reads cfg env T j := by
  apply Member.hered (P := fun T j => wfJ j = true → Reads cfg env T j) (m := m)
  case numberInt | numberFloat | bigint | string | boolean => exact fun x _ => .of_inv (ty := fun _ h hok => prim_reads (by constructor) h hok)
  case null =>
    exact fun _ => .of_inv (ty := fun _ h hok => prim_reads .null h hok)
      (body := fun _ _ _ _ _ _ h _ _ _ _ => by cases h; exact Good.zero (fun f => by simp [accBody, isNull]))
  case lit =>
    refine fun s _ => .of_inv (variant := fun it var h hI hvm hsk hen => ?_)
    cases h with
    | extUnit htg hu =>
      rw [(variantOk_facts (hI.2.2.2 hen var hvm)).1]
      exact Good.zero (accEnum_ext_unit env hI hvm hsk · htg hu)
  case ref => exact fun hl m' ih hw => .of_inv (ty := fun _ h _ => ref_ty hF hl m' (ih hw) h)
  case array =>
    refine fun ih hw => .of_inv (ty := fun _ h _ => ?_)
    obtain ⟨u, hu, hX, hoku⟩ := h
    refine Good.congr (all_reads hX hoku ih (wfJ_arr hw)) (fun f => ?_)
    rcases hu with rfl | rfl | rfl <;> simp [accB]
  case tuple =>
    refine fun ih hw => .of_inv (ty := fun _ h _ => ?_) (body := fun _ _ _ _ _ _ h _ _ hty _ => ?_)
    · rcases h with ⟨u, n, X, rfl, hX, rfl, hoku⟩ | ⟨ts, rfl, hXs, hokts⟩
      · obtain ⟨hlen, hg⟩ := rep_reads hX hoku n ih (wfJ_arr hw)
        exact Good.congr hg (fun f => by simp [accB, hlen])
      · exact Good.congr (zip_reads ts hXs hokts ih (wfJ_arr hw)) (fun f => by simp [accB])
    · cases h with
      | tuple hXs => exact (tupleF_reads hXs ih hty (wfJ_arr hw)).step fun _ => Nat.le_refl _
  case neverArray =>
    refine fun _ => .of_inv (body := fun _ _ _ _ _ _ h _ _ _ _ => ?_)
    cases h
    exact Good.step (Good.zero (X := fun f => accTuple cfg env f [] [] []) (fun _ => rfl)) (fun _ => Nat.le_refl _)
  case emptyRecord =>
    refine fun _ => .of_inv (body := fun _ raS _ _ _ _ h _ _ _ _ => ?_)
    cases h
    exact Good.step (Good.zero (X := fun f => accNamed cfg env f [] raS [] [])  (fun _ => rfl)) (fun _ => Nat.le_refl _)
  case obj =>
    exact fun ih hk hw => .of_inv (ty := fun _ h _ => obj_ty ih hw h) (body := fun _ _ _ _ _ _ h hra hok hty tagS => obj_body ih hw h hra hok hty tagS)
      (variant := fun _ _ h => obj_variant ih hk hw h) (obj1 := obj_obj1 ih hk hw)
  case mapped =>
    refine fun ih hw => .of_inv (ty := fun _ h _ => ?_)
    obtain ⟨k, v, rfl, hK, hV, hkk, hokv⟩ := h
    exact Good.congr (map_reads hK hkk hV hokv ih (wfJ_obj hw).2) (fun f => by simp [accB])
  case union =>
    exact fun hmem m' ih hw => .of_inv (ty := fun _ h _ => union_ty hmem m' (ih hw) h)
      (enum := fun it arms e => by cases e; exact union_enum hmem m' (ih hw) hw)
  case interNil | interObj | interOne | interVal | paren => intros; exact .of_inv

theorem member_rd (hF : deFragB cfg env = true) (T : Ts) (j : JVal) (m : Member (declsOf cfg env) T j) : Rd cfg env T j := ⟨m, member_reads hF m⟩
end

theorem gTy (cfg : Cfg) (env : Env) (hF : deFragB cfg env = true) : ∀ {T : Ts} {j : JVal}, Member (declsOf cfg env) T j →
    ∀ (t : RTy), tyTs cfg env t = some T → tyOk cfg.limit t = true → wfJ j = true → Good (fun f => accB (accNf cfg env f) t j) :=
  fun m t hT hok hw => (member_reads hF m hw).ty t hT hok

/-- an object type with one required property -/
theorem gObj1 (cfg : Cfg) (env : Env) (hF : deFragB cfg env = true) : ∀ {T : Ts} {j : JVal}, Member (declsOf cfg env) T j →
    ∀ (K : TsKey) (A : Ts) (a : RTy), T = .obj [(K, A)] → K.optional = false → tyTs cfg env a = some A → tyOk cfg.limit a = true → wfJ j = true →
      ∃ v, j = .obj [(K.name, v)] ∧ Good (fun f => accB (accNf cfg env f) a v) :=
  fun m K A a hT hreq hA hoka hw => (member_reads hF m hw).obj1 K A a hT hreq hA hoka

/-- `{ start: X, end: X }` -/
theorem gRange (cfg : Cfg) (env : Env) (hF : deFragB cfg env = true) : ∀ {fs : List (TsKey × Ts)} {kvs : List (Str × JVal)},
    MemberFields (declsOf cfg env) fs kvs → ∀ (K1 K2 : TsKey) (X : Ts) (u : RTy), fs = [(K1, X), (K2, X)] → K1.optional = false → K2.optional = false →
      tyTs cfg env u = some X → tyOk cfg.limit u = true → wfJF kvs = true →
      ∃ v1 v2, JVal.lookup K1.name kvs = some v1 ∧ JVal.lookup K2.name kvs = some v2 ∧
        Good (fun f => Nat.max (accB (accNf cfg env f) u v1) (accB (accNf cfg env f) u v2)) := by
  rintro _ kvs mf K1 K2 X u rfl h1 h2 hX hoku hw
  have ih := mf.fieldsP.imp (member_rd hF)
  obtain ⟨v1, hl1, _, r1⟩ := FieldsP.required ih hw (List.mem_cons_self) h1
  obtain ⟨v2, hl2, _, r2⟩ := FieldsP.required ih hw (List.mem_cons_of_mem _ (List.mem_cons_self)) h2
  exact ⟨v1, v2, hl1, hl2, Good.max (r1.ty u hX hoku) (r2.ty u hX hoku)⟩

/-- the body of a struct or the content of a variant (newtypes are dispatched by the caller) -/
theorem gStruct (cfg : Cfg) (env : Env) (hF : deFragB cfg env = true) : ∀ {T : Ts} {j : JVal}, Member (declsOf cfg env) T j →
    ∀ (ra raS : Option Rule) (of : Opt) (tag : Option (Str × Str)) (tagS : Option Str) (shape : Shape) (fields : List Field),
      structBody cfg env ra of tag shape fields = some T → (shape = .named → raS = ra) → (shape = .tuple → fields.length ≠ 1) →
      (shape = .named → fields.all (fieldOkN cfg ra of) = true) → fields.all (fieldTyOk cfg) = true → wfJ j = true →
      Good (fun f => accBody cfg env f [] raS tagS shape fields j) :=
  fun m ra raS of tag tagS shape fields hB hra hnt hok hty hw =>
    (member_reads hF m hw).body ra raS of tag tagS shape fields hB hra (fun hs _ hf => absurd (by rw [hf]; rfl) (hnt hs)) hok hty

/-- the named fields of a struct / struct variant -/
theorem gFields (cfg : Cfg) (env : Env) (hF : deFragB cfg env = true) : ∀ {fsT : List (TsKey × Ts)} {kvs : List (Str × JVal)},
    MemberFields (declsOf cfg env) fsT kvs → ∀ (ra : Option Rule) (of : Opt) (fields : List Field), fieldsTs cfg env ra of fields = some fsT →
      fields.all (fieldOkN cfg ra of) = true → fields.all (fieldTyOk cfg) = true → wfJF kvs = true →
      Good (fun f => accNamed cfg env f [] ra fields kvs) :=
  fun mf ra of _ hfs hok hty hw => named_reads ra of hw hfs (mf.fieldsP.imp (member_rd hF)) hok hty

/-- the properties of a tagged struct: the tag first, then the fields -/
theorem gTagged (cfg : Cfg) (env : Env) (hF : deFragB cfg env = true) : ∀ {fsT : List (TsKey × Ts)} {kvs : List (Str × JVal)},
    MemberFields (declsOf cfg env) fsT kvs → ∀ (tk : TsKey) (tn : Str) (fs : List (TsKey × Ts)) (ra : Option Rule) (of : Opt) (fields : List Field),
      fsT = (tk, .lit tn) :: fs → tk.optional = false → fieldsTs cfg env ra of fields = some fs →
      fields.all (fieldOkN cfg ra of) = true → fields.all (fieldTyOk cfg) = true → wfJF kvs = true →
      Good (fun f => accNamed cfg env f [] ra fields kvs) := by
  rintro _ kvs mf tk tn fs ra of fields rfl _ hfs hok hty hw
  exact named_reads ra of hw hfs (fun p hp => mf.fieldsP.imp (member_rd hF) p (List.mem_cons_of_mem _ hp)) hok hty

/-- one arm of the union of an enum -/
theorem gVariant (cfg : Cfg) (env : Env) (hF : deFragB cfg env = true) : ∀ {A : Ts} {j : JVal}, Member (declsOf cfg env) A j →
    ∀ (it : Item) (var : Variant), variantTs cfg env it var = some A → ItemF cfg it → var ∈ it.variants → var.attr.skip = false → it.isEnum = true →
      wfJ j = true → Good (fun f => accEnum cfg env f it [] j) :=
  fun m it var hA hI hvm hsk hen hw => (member_reads hF m hw).variant it var hA hI hvm hsk hen

/-- the content property of an adjacently tagged variant -/
theorem gAdj2 (cfg : Cfg) (env : Env) (hF : deFragB cfg env = true) : ∀ {fsT : List (TsKey × Ts)} {kvs : List (Str × JVal)},
    MemberFields (declsOf cfg env) fsT kvs → ∀ (it : Item) (var : Variant) (ck : TsKey) (C : Ts), fsT = [(ck, C)] → ck.optional = false →
      structBody cfg env (renameAllT it var) .no none var.shape var.fields = some C → ItemF cfg it → var ∈ it.variants → it.isEnum = true → wfJF kvs = true →
      (var.unitLike = false → ∃ v2, JVal.lookup ck.name kvs = some v2 ∧ Good (fun f => accVariantContent cfg env f it [] var (some v2))) := by
  rintro _ kvs mf it var ck C rfl hreq hC ⟨hiu, hvs, _, hvok⟩ hvm hen hw hu
  obtain ⟨v2, hl2, _, r2⟩ := FieldsP.required (mf.fieldsP.imp (member_rd hF)) hw (List.mem_cons_self) hreq
  exact ⟨v2, hl2, content_reads r2 hC hu (hvok hen var hvm) (hvs var hvm).2⟩

/-- the union of an enum -/
theorem gEnum (cfg : Cfg) (env : Env) (hF : deFragB cfg env = true) : ∀ {T : Ts} {j : JVal}, Member (declsOf cfg env) T j →
    ∀ (it : Item) (arms : List Ts), T = .union arms → variantsTs cfg env it it.variants = some arms → ItemG cfg it → it.isEnum = true → wfJ j = true →
      Good (fun f => accEnum cfg env f it [] j) :=
  fun m it arms hT harms hG hen hw => (member_reads hF m hw).enum it arms hT harms hG hen

/-- the fields of a tuple struct / tuple variant -/
theorem gTupleF (cfg : Cfg) (env : Env) (hF : deFragB cfg env = true) : ∀ {Xs : List Ts} {js : List JVal},
    MemberZip (declsOf cfg env) Xs js → ∀ (fields : List Field), tupleTs cfg env fields = some Xs → fields.all (fieldTyOk cfg) = true → wfJL js = true →
      Good (fun f => accTuple cfg env f [] fields js) :=
  fun mz _ hXs hty hw => tupleF_reads hXs (mz.zipP.imp (member_rd hF)) hty hw

theorem gAll (cfg : Cfg) (env : Env) (hF : deFragB cfg env = true) : ∀ {X : Ts} {js : List JVal}, MemberAll (declsOf cfg env) X js →
    ∀ (u : RTy), tyTs cfg env u = some X → tyOk cfg.limit u = true → wfJL js = true → Good (fun f => accAllB (accNf cfg env f) u js) :=
  fun ma _ hX hok hw => all_reads hX hok (fun j hj => member_rd hF _ j (ma.allP j hj)) hw

theorem gRep (cfg : Cfg) (env : Env) (hF : deFragB cfg env = true) : ∀ {Xs : List Ts} {js : List JVal}, MemberZip (declsOf cfg env) Xs js →
    ∀ (n : Nat) (X : Ts) (u : RTy), Xs = List.replicate n X → tyTs cfg env u = some X → tyOk cfg.limit u = true → wfJL js = true →
      js.length = n ∧ Good (fun f => accAllB (accNf cfg env f) u js) := by
  rintro _ js mz n X u rfl hX hok hw
  exact rep_reads hX hok n (mz.zipP.imp (member_rd hF)) hw

theorem gZip (cfg : Cfg) (env : Env) (hF : deFragB cfg env = true) : ∀ {Xs : List Ts} {js : List JVal}, MemberZip (declsOf cfg env) Xs js →
    ∀ (ts : List RTy), nameTyBL cfg.limit (nameN env) ts = some Xs → tyOkL cfg.limit ts = true → wfJL js = true →
      Good (fun f => accZipB (accNf cfg env f) ts js) :=
  fun mz ts hXs hok hw => zip_reads ts hXs hok (mz.zipP.imp (member_rd hF)) hw

theorem gMap (cfg : Cfg) (env : Env) (hF : deFragB cfg env = true) : ∀ {K V : Ts} {kvs : List (Str × JVal)}, MemberMap (declsOf cfg env) K V kvs →
    ∀ (k v : RTy), tyTs cfg env k = some K → keyOk k = true → tyTs cfg env v = some V → tyOk cfg.limit v = true → wfJF kvs = true →
      Good (fun f => accMapB (accNf cfg env f) k v kvs) :=
  fun mm _ _ hK hkk hV hokv hw => map_reads hK hkk hV hokv ((memberMap_iff.1 mm).imp (member_rd hF _) (member_rd hF _)) hw

end TsRs
