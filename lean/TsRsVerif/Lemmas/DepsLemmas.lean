import TsRsVerif.Lemmas.UsedNames
import TsRsVerif.Lemmas.TreeBasics
/-!
The dependencies the derive records for an item (`itemDeps`), visited at a substitution `σ` of the item's parameters, reach exactly
the names the item's declaration mentions. One development for every `σ` that maps parameters to parameters (`Renaming`):
`σ = []` is the monomorphic item, `σ = parameters ↦ Dummy` is `T::WithoutGenerics`, from which the file of a generic item is made.
A dependency `t` is visited at `σ` as the type `t[σ]`; its names are those of `t`'s TypeScript name with the parameters renamed
(`name_subst`), and renaming parameters changes no declaration name (`refNames_subst`).
-/
namespace TsRs
open Ts Builtin Derive Tree

theorem RTy.beqL_eq_of : ∀ (a : List RTy), (∀ x ∈ a, ∀ y, RTy.beq x y = true → x = y) → ∀ b, RTy.beqL a b = true → a = b
  | [], _, [], _ => rfl
  | x :: xs, ih, y :: ys, h => by
    simp only [RTy.beqL, Bool.and_eq_true] at h
    rw [ih x List.mem_cons_self y h.1, RTy.beqL_eq_of xs (fun x hx => ih x (List.mem_cons_of_mem _ hx)) ys h.2]
  | [], _, _ :: _, h | _ :: _, _, [], h => by cases h

/- off the diagonal `RTy.beq a b` computes to `false` (`cases h`); on it, to the comparison of the parts -/
theorem RTy.beq_eq : ∀ (a b : RTy), RTy.beq a b = true → a = b := by
  intro a
  induction a using RTy.induct with
  | prim a | param a => intro b h; cases b <;> first | cases h | rw [eq_of_beq h]
  | option a ih | vec a ih | slice a ih | set a ih | range a ih => intro b h; cases b <;> first | cases h | rw [ih _ h]
  | arr a n ih | wrap k a ih =>
    intro b h
    cases b <;> first | cases h | (simp only [RTy.beq, Bool.and_eq_true, beq_iff_eq] at h; rw [h.1, ih _ h.2])
  | map a c iha ihc | result a c iha ihc =>
    intro b h
    cases b <;> first | cases h | (simp only [RTy.beq, Bool.and_eq_true] at h; rw [iha _ h.1, ihc _ h.2])
  | tuple a ih => intro b h; cases b <;> first | cases h | rw [RTy.beqL_eq_of a ih _ h]
  | named i a ih =>
    intro b h
    cases b <;> first | cases h | (simp only [RTy.beq, Bool.and_eq_true, beq_iff_eq] at h; rw [h.1, RTy.beqL_eq_of a ih _ h.2])

theorem RTy.beqL_eq : ∀ (a b : List RTy), RTy.beqL a b = true → a = b :=
  fun a => RTy.beqL_eq_of a fun x _ => RTy.beq_eq x

theorem Dep.beq_eq (d e : Dep) (h : Dep.beq d e = true) : d = e := by
  cases d <;> cases e <;> simp [Dep.beq] at h
  all_goals
    rename_i a b
    obtain ⟨h1, h2⟩ := h
    have := RTy.beq_eq _ _ h2
    cases a; cases b
    simp_all

theorem mem_dedupDeps : ∀ (l : List Dep) (e : Dep), e ∈ dedupDeps l ↔ e ∈ l
  | [], e => by simp [dedupDeps]
  | d :: ds, e => by
    have ih := mem_dedupDeps ds e
    simp only [dedupDeps, List.mem_cons, List.mem_filter, Bool.not_eq_true', ih]
    by_cases hb : Dep.beq d e = true
    · simp [Dep.beq_eq d e hb]
    · simp [hb]

theorem refNamesF_append : ∀ (a b : List (TsKey × Ts)), refNamesF (a ++ b) = refNamesF a ++ refNamesF b :=
  fun a b => by simp [refNamesF_eq]

theorem refNamesL_append : ∀ (a b : List Ts), refNamesL (a ++ b) = refNamesL a ++ refNamesL b :=
  fun a b => by simp [refNamesL_eq]

def ParamsOnlyT (σ : List (Str × Ts)) : Prop := ∀ p ∈ σ, ∃ m, p.2 = Ts.param m
def ParamsOnly (σ : List (Str × RTy)) : Prop := ∀ p ∈ σ, ∃ m, p.2 = RTy.param m

theorem ParamsOnly.subst_param {σ : List (Str × RTy)} (h : ParamsOnly σ) (n : Str) : ∃ m, RTy.subst σ (.param n) = .param m := by
  simp only [RTy.subst]
  cases hf : σ.find? (·.1 = n) with
  | none => exact ⟨n, rfl⟩
  | some p =>
    obtain ⟨m, hm⟩ := h p (List.mem_of_find?_eq_some hf)
    exact ⟨m, by simp [hm]⟩

mutual
theorem refNames_subst (σ : List (Str × Ts)) (h : ParamsOnlyT σ) : ∀ (t : Ts), refNames (Ts.subst σ t) = refNames t
  | .param n => by
    simp only [Ts.subst, lookupSub]
    cases hf : σ.find? (·.1 = n) with
    | none => simp [refNames]
    | some p =>
      obtain ⟨m, hm⟩ := h p (List.mem_of_find?_eq_some hf)
      simp [hm, refNames]
  | .ref n args => congrArg (n :: ·) (refNamesL_subst σ h args)
  | .array x | .paren x => refNames_subst σ h x
  | .tuple xs | .union xs | .inter xs => refNamesL_subst σ h xs
  | .obj fs => refNamesF_subst σ h fs
  | .mapped k v => by
    show refNames (Ts.subst σ k) ++ refNames (Ts.subst σ v) = _
    rw [refNames_subst σ h k, refNames_subst σ h v]; rfl
  | .number | .bigint | .string | .boolean | .null | .never | .lit _ | .neverArray | .emptyRecord | .raw _ => rfl
theorem refNamesL_subst (σ : List (Str × Ts)) (h : ParamsOnlyT σ) : ∀ (ts : List Ts), refNamesL (Ts.substList σ ts) = refNamesL ts
  | [] => rfl
  | t :: ts => by
    show refNames (Ts.subst σ t) ++ refNamesL (Ts.substList σ ts) = _
    rw [refNames_subst σ h t, refNamesL_subst σ h ts]; rfl
theorem refNamesF_subst (σ : List (Str × Ts)) (h : ParamsOnlyT σ) : ∀ (fs : List (TsKey × Ts)), refNamesF (Ts.substFields σ fs) = refNamesF fs
  | [] => rfl
  | (_, t) :: fs => by
    show refNames (Ts.subst σ t) ++ refNamesF (Ts.substFields σ fs) = _
    rw [refNames_subst σ h t, refNamesF_subst σ h fs]; rfl
end

theorem tyWFL_eq_all (env : Env) : ∀ ts, tyWFL env ts = ts.all (tyWF env)
  | [] => rfl
  | t :: ts => by rw [tyWFL, tyWFL_eq_all env ts, List.all_cons]

theorem tyWF_subst (env : Env) (σ : List (Str × RTy)) (h : ParamsOnly σ) : ∀ (t : RTy), tyWF env t = true → tyWF env (RTy.subst σ t) = true := by
  intro t
  induction t using RTy.induct with
  | param n => obtain ⟨m, hm⟩ := h.subst_param n; rw [hm]; exact id
  | prim _ => exact id
  | option x ih | vec x ih | slice x ih | set x ih | range x ih | wrap _ x ih => simpa only [tyWF, RTy.subst] using ih
  | arr x n ih => simp only [tyWF, RTy.subst, Bool.and_eq_true]; exact fun hw => ⟨hw.1, ih hw.2⟩
  | map k v ihk ihv | result k v ihk ihv => simp only [tyWF, RTy.subst, Bool.and_eq_true]; exact fun hw => ⟨ihk hw.1, ihv hw.2⟩
  | tuple ts ih => simp only [tyWF, RTy.subst, tyWFL_eq_all, substL_eq_map, List.all_map, List.all_eq_true]; exact fun hw t ht => ih t ht (hw t ht)
  | named id args ih =>
    simp only [tyWF, RTy.subst, Bool.and_eq_true, tyWFL_eq_all, substL_eq_map, List.all_map, List.all_eq_true, List.length_map]
    exact fun hw => ⟨hw.1, fun t ht => ih t ht (hw.2 t ht)⟩

theorem tyWFL_subst (env : Env) (σ : List (Str × RTy)) (h : ParamsOnly σ) : ∀ (ts : List RTy), tyWFL env ts = true → tyWFL env (RTy.substL σ ts) = true := by
  simp only [tyWFL_eq_all, substL_eq_map, List.all_map, List.all_eq_true]
  exact fun ts hw t ht => tyWF_subst env σ h t (hw t ht)

theorem depthRL_eq : ∀ ts, depthRL ts = (ts.map depthR).foldr max 0
  | [] => rfl
  | t :: ts => by rw [depthRL, depthRL_eq ts, List.map_cons, List.foldr_cons]

theorem depthR_subst (σ : List (Str × RTy)) (h : ParamsOnly σ) : ∀ (t : RTy), depthR (RTy.subst σ t) = depthR t := by
  intro t
  induction t using RTy.induct with
  | param n => obtain ⟨m, hm⟩ := h.subst_param n; rw [hm]; rfl
  | prim _ => rfl
  | option x ih | vec x ih | slice x ih | set x ih | range x ih | wrap _ x ih | arr x _ ih => simp only [RTy.subst, depthR, ih]
  | map k v ihk ihv | result k v ihk ihv => simp only [RTy.subst, depthR, ihk, ihv]
  | tuple ts ih | named _ ts ih =>
    simp only [RTy.subst, depthR, depthRL_eq, substL_eq_map, List.map_map]
    rw [List.map_congr_left (f := depthR ∘ RTy.subst σ) ih]

theorem depthRL_subst (σ : List (Str × RTy)) (h : ParamsOnly σ) : ∀ (ts : List RTy), depthRL (RTy.substL σ ts) = depthRL ts := by
  intro ts
  rw [depthRL_eq, depthRL_eq, substL_eq_map, List.map_map, List.map_congr_left (f := depthR ∘ RTy.subst σ) fun t _ => depthR_subst σ h t]

/-- `<T as TS>::OptionInnerType` is resolved after the arguments are put in; for parameters ↦ parameters the order does not matter -/
theorem ParamsOnly.optionInner_subst {σ : List (Str × RTy)} (h : ParamsOnly σ) (t : RTy) :
    optionInner (RTy.subst σ t) = RTy.subst σ (optionInner t) := by
  cases t with
  | param n => obtain ⟨m, hm⟩ := h.subst_param n; simp [optionInner, hm]
  | _ => rfl

theorem tyWF_optionInner (env : Env) (t : RTy) (h : tyWF env t = true) : tyWF env (optionInner t) = true := by
  cases t <;> exact h

theorem depthR_optionInner (t : RTy) : depthR (optionInner t) ≤ depthR t := by
  cases t with
  | option u => exact Nat.le_succ _
  | _ => exact Nat.le_refl _

/-- a substitution of parameters by parameters, together with the TypeScript names of its right-hand sides -/
def Renaming (cfg : Cfg) (env : Env) (σ : List (Str × RTy)) : Prop :=
  ∃ (names : List Str) (args : List RTy) (targs : List Ts), σ = names.zip args ∧ nameTyBL cfg.limit (nameN env) args = some targs ∧
    ParamsOnly (names.zip args) ∧ ParamsOnlyT (names.zip targs)

theorem Renaming.nil (cfg : Cfg) (env : Env) : Renaming cfg env [] :=
  ⟨[], [], [], rfl, rfl, by simp [ParamsOnly], by simp [ParamsOnlyT]⟩

/-- **mentioned = visited** (`visit_refs`) for a type of the generic declaration, visited at a renaming -/
theorem Renaming.visit {cfg : Cfg} {env : Env} {σ : List (Str × RTy)} (hσ : Renaming cfg env σ) (t : RTy) (T : Ts) (f : Nat)
    (hw : tyWF env t = true) (hd : depthR t < f) (hT : tyTs cfg env t = some T) (n : Str) :
    n ∈ idents (visitOne env f (RTy.subst σ t) ++ visitGenerics env f (RTy.subst σ t)) ↔ n ∈ refNames T := by
  obtain ⟨names, args, targs, rfl, hargs, hpo, hpoT⟩ := hσ
  rw [visit_refs cfg env _ _ f (tyWF_subst env _ hpo t hw) (by rw [depthR_subst _ hpo]; exact hd)
    (name_subst cfg.limit (nameN env) (nameN_commutes env) names args targs hargs t T hT) n, refNames_subst _ hpoT]

/-- the plain fields of the fragment: no `inline` / `flatten` / `as` / `type`, and a well-formed type within the fuel of the visit -/
def PlainField (env : Env) (f : Nat) (fld : Field) : Prop :=
  fld.attr.typeAs = none ∧ fld.attr.typeOverride = none ∧ fld.attr.flatten = false ∧ fld.attr.inline = false ∧
  (fld.attr.skip = false → tyWF env fld.ty = true ∧ depthR fld.ty < f)

/-- what `visit_dependencies` does with one recorded dependency -/
def visitDep (env : Env) (f : Nat) (σ : List (Str × RTy)) : Dep → List Visited
  | .type t => visitOne env f (resolveInner σ t)
  | .generics t => visitGenerics env f (resolveInner σ t)
  | .transitive t => visitDeps env f (resolveInner σ t)

theorem visitDeps_named (env : Env) (f : Nat) (id : Str) (args : List RTy) (it : Item) (h : env.find id = some it) :
    visitDeps env (f + 1) (.named id args) = (dedupDeps (itemDeps it)).flatMap (visitDep env f (bindArgs it args)) := by
  rw [visitDeps]
  simp only [h]
  congr 1

theorem mem_idents_flatMap {α : Type} (l : List α) (g : α → List Visited) (n : Str) :
    n ∈ idents (l.flatMap g) ↔ ∃ x ∈ l, n ∈ idents (g x) := by
  simp only [idents, List.map_flatMap, List.mem_flatMap]

theorem idents_dedup (env : Env) (f : Nat) (σ : List (Str × RTy)) (l : List Dep) (n : Str) :
    n ∈ idents ((dedupDeps l).flatMap (visitDep env f σ)) ↔ n ∈ idents (l.flatMap (visitDep env f σ)) := by
  simp only [mem_idents_flatMap, mem_dedupDeps]

section
variable {cfg : Cfg} {env : Env} {f : Nat} {σ : List (Str × RTy)} (hσ : Renaming cfg env σ)
include hσ

/-- `Dependencies::push` of a field's type: visits the names the field's printed type mentions -/
theorem push_visit (d : DepTy) (T : Ts) (hw : tyWF env d.ty = true) (hd : depthR d.ty < f)
    (hT : tyTs cfg env (if d.inner then optionInner d.ty else d.ty) = some T) (n : Str) :
    n ∈ idents ((push d).flatMap (visitDep env f σ)) ↔ n ∈ refNames T := by
  obtain ⟨_, _, _, rfl, _, hpo, _⟩ := id hσ
  simp only [push, List.flatMap_cons, List.flatMap_nil, List.append_nil, visitDep, resolveInner]
  cases hi : d.inner with
  | false => simp only [hi, Bool.false_eq_true, if_false] at hT ⊢; exact hσ.visit _ T f hw hd hT n
  | true =>
    simp only [hi, if_true, hpo.optionInner_subst] at hT ⊢
    exact hσ.visit _ T f (tyWF_optionInner env _ hw) (Nat.lt_of_le_of_lt (depthR_optionInner _) hd) hT n

omit hσ in
/-- over the members that `keepM` translates: if a skipped member records no dependency and those of a kept one visit the names its
translation mentions, the same holds of the lists -/
theorem keepM_visit {α β : Type} {skip : α → Bool} {g : α → Option β} (D : α → List Visited) (R : β → List Str) (n : Str)
    {l : List α} {ys : List β} (h : keepM skip g l = some ys) :
    (∀ x ∈ l, if skip x then D x = [] else ∀ y, g x = some y → (n ∈ idents (D x) ↔ n ∈ R y)) →
      (n ∈ idents (l.flatMap D) ↔ n ∈ ys.flatMap R) := by
  refine keepM_induct (motive := fun l ys => (∀ x ∈ l, if skip x then D x = [] else ∀ y, g x = some y → (n ∈ idents (D x) ↔ n ∈ R y)) →
    (n ∈ idents (l.flatMap D) ↔ n ∈ ys.flatMap R)) (fun _ => by simp [idents]) ?_ ?_ h
  · intro x xs ys hs _ ih hx
    have h0 := hx x List.mem_cons_self
    rw [hs, if_pos rfl] at h0
    simp [h0, ih fun y hy => hx y (List.mem_cons_of_mem _ hy)]
  · intro x xs y ys hs hy _ ih hx
    have h0 := hx x List.mem_cons_self
    rw [hs, if_neg Bool.false_ne_true] at h0
    simp [idents_append, h0 y hy, ih fun y hy => hx y (List.mem_cons_of_mem _ hy)]

omit hσ in
theorem typeDefDeps_named (tag : Option Str) (of : Opt) (fields : List Field) :
    typeDefDeps { tag := tag, optionalFields := of } .named fields = fields.flatMap fun fld =>
      if fld.attr.skip || fld.attr.typeOverride.isSome then []
      else if fld.attr.flatten || fld.attr.inline then [.transitive (fieldDepTy of fld)] else push (fieldDepTy of fld) := by
  cases fields <;> simp [typeDefDeps]

omit hσ in
theorem typeDefDeps_tuple (tag : Option Str) (of : Opt) (fields : List Field) :
    typeDefDeps { tag := tag, optionalFields := of } .tuple fields = fields.flatMap fun fld =>
      if fld.attr.skip || fld.attr.typeOverride.isSome then []
      else if fld.attr.inline then [.transitive { ty := effTy fld, inner := false }] else push { ty := effTy fld, inner := false } := by
  match fields with
  | [] | [_] | _ :: _ :: _ => simp [typeDefDeps]

omit hσ in
theorem fieldDepTy_eq (of : Opt) (fld : Field) (hta : fld.attr.typeAs = none) :
    fieldDepTy of fld = { ty := fld.ty, inner := !(optMode of fld).2 } := by
  unfold fieldDepTy optMode effTy
  cases of <;> cases fld.attr.optional <;> simp [hta]

theorem namedFields_visit (ra : Option Rule) (of : Opt) (tag : Option Str) (fields : List Field) (fs : List (TsKey × Ts))
    (hp : ∀ fld ∈ fields, PlainField env f fld) (hT : fieldsTs cfg env ra of fields = some fs) (n : Str) :
    n ∈ idents ((typeDefDeps { tag := tag, optionalFields := of } .named fields).flatMap (visitDep env f σ)) ↔ n ∈ refNamesF fs := by
  rw [typeDefDeps_named, List.flatMap_assoc, refNamesF_eq]
  refine keepM_visit _ _ n (fieldsTs_eq .. ▸ hT) fun fld hf => ?_
  obtain ⟨hta, hto, hfl, hin, hty⟩ := hp fld hf
  cases hs : fld.attr.skip with
  | true => simp
  | false =>
    intro p hp
    obtain ⟨T, hT, rfl⟩ := Option.map_eq_some_iff.mp hp
    simp only [hto, hfl, hin, Option.isSome_none, Bool.or_self, Bool.false_eq_true, if_false, fieldDepTy_eq of fld hta]
    exact push_visit hσ _ T (hty hs).1 (hty hs).2 (by cases h : (optMode of fld).2 <;> simpa [fieldTy, h] using hT) n

theorem tupleFields_visit (tag : Option Str) (of : Opt) (fields : List Field) (ts : List Ts)
    (hp : ∀ fld ∈ fields, PlainField env f fld) (hT : tupleTs cfg env fields = some ts) (n : Str) :
    n ∈ idents ((typeDefDeps { tag := tag, optionalFields := of } .tuple fields).flatMap (visitDep env f σ)) ↔ n ∈ refNamesL ts := by
  rw [typeDefDeps_tuple, List.flatMap_assoc, refNamesL_eq]
  refine keepM_visit _ _ n (tupleTs_eq .. ▸ hT) fun fld hf => ?_
  obtain ⟨hta, hto, hfl, hin, hty⟩ := hp fld hf
  cases hs : fld.attr.skip with
  | true => simp
  | false =>
    intro T hT
    simp only [hto, hin, Option.isSome_none, Bool.or_self, Bool.false_eq_true, if_false]
    exact push_visit hσ _ T (by simpa [effTy, hta] using (hty hs).1) (by simpa [effTy, hta] using (hty hs).2)
      (by simpa [effTy, hta] using hT) n

theorem body_visit (ra : Option Rule) (of : Opt) (tag : Option (Str × Str)) (tag' : Option Str) (shape : Shape) (fields : List Field)
    (B : Ts) (hp : ∀ fld ∈ fields, PlainField env f fld) (hB : structBody cfg env ra of tag shape fields = some B) (n : Str) :
    n ∈ idents ((typeDefDeps { tag := tag', optionalFields := of } shape fields).flatMap (visitDep env f σ)) ↔ n ∈ refNames B := by
  rcases structBody_eq_some.mp hB with ⟨fld, rfl, rfl, h⟩ | hc
  · -- a newtype is printed as its field's type: the names of the one-element tuple (of the empty one if the field is skipped)
    cases hs : fld.attr.skip <;> simp only [hs, Bool.false_eq_true, if_false, if_true] at h
    · simpa [refNamesL] using tupleFields_visit hσ tag' of [fld] [B] hp (tupleTs_eq .. ▸ keepM_cons.mpr ⟨[], rfl, by simp [hs, h]⟩) n
    · cases h
      simpa [refNamesL, refNames] using tupleFields_visit hσ tag' of [fld] [] hp (tupleTs_eq .. ▸ keepM_cons.mpr ⟨[], rfl, by simp [hs]⟩) n
  · cases hc with
    | unit => simp [typeDefDeps, idents, refNames]
    | empty => simp [typeDefDeps_named, idents, refNames]
    | named _ hfs =>
      rw [namedFields_visit hσ ra of tag' fields _ hp hfs]
      rcases tag with _ | ⟨t, nm⟩ <;> simp [refNames, refNamesF]
    | never => simp [typeDefDeps, idents, refNames]
    | tuple hts => simpa [refNames] using tupleFields_visit hσ tag' of _ _ hp hts n

theorem variant_visit (it : Item) (v : Variant) (tag' : Option Str) (arm : Ts) (hp : ∀ fld ∈ v.fields, PlainField env f fld)
    (hA : variantTs cfg env it v = some arm) (n : Str) :
    n ∈ idents ((typeDefDeps { tag := tag' } v.shape v.fields).flatMap (visitDep env f σ)) ↔ n ∈ refNames arm := by
  have hb : ∀ B, structBody cfg env (renameAllT it v) .no none v.shape v.fields = some B →
      (n ∈ idents ((typeDefDeps { tag := tag' } v.shape v.fields).flatMap (visitDep env f σ)) ↔ n ∈ refNames B) :=
    fun B h => body_visit hσ _ .no none tag' v.shape v.fields B hp h n
  -- a unit-like variant records nothing, and its arm is made of literals
  have hu : v.unitLike = true → typeDefDeps { tag := tag' } v.shape v.fields = [] := by
    intro h
    rcases (unitLike_iff v).mp h with h | ⟨fld, h1, h2, h3⟩
    · simp [typeDefDeps, h]
    · simp [h1, h2, h3, typeDefDeps_tuple]
  rcases variantTs_eq_some.mp hA with ⟨_, hB⟩ | ⟨_, hV⟩
  · exact hb _ hB
  · cases hV with
    | extUnit _ h | adjUnit _ h | intUnit _ h => simp [hu h, idents, refNames, refNamesF]
    | ext _ _ hC | adj _ _ hC => simp [hb _ hC, refNames, refNamesF]
    | int _ _ hsh hfs =>
      rw [hsh, namedFields_visit hσ _ .no tag' _ _ hp hfs]
      simp [refNames, refNamesF]

end

/-- what the derive records for the right-hand side of the declaration, and for the defaults in its header -/
def bodyDeps (it : Item) : List Dep :=
  if it.isEnum then
    match it.attr.typeOverride, it.attr.typeAs with
    | some _, _ => []
    | none, some a => [.transitive { ty := a, inner := false }]
    | none, none =>
      it.variants.flatMap fun v =>
        if v.attr.skip then []
        else match v.attr.typeAs, v.attr.typeOverride with
          | some a, _ => push { ty := a, inner := false }
          | none, some _ => []
          | none, none =>
            typeDefDeps { tag := match v.shape, tagged it.attr with
                            | .named, .internally t => if v.attr.untagged then none else some t
                            | _, _ => none } v.shape v.fields
  else
    typeDefDeps { tag := it.attr.tag, typeAs := it.attr.typeAs, typeOverride := it.attr.typeOverride,
                  optionalFields := it.attr.optionalFields } it.shape it.fields

def defaultDeps (it : Item) : List Dep :=
  it.generics.flatMap fun g =>
    if (it.attr.concrete.find? (·.1 = g.name)).isSome then []
    else match g.default with
      | some d => push { ty := d, inner := false }
      | none => []

theorem itemDeps_split (it : Item) : itemDeps it = bodyDeps it ++ defaultDeps it := rfl

/-- **the right-hand side of a declaration of the fragment**: its recorded dependencies, visited at a renaming of the parameters,
reach exactly the names it mentions -/
theorem bodyDeps_visit {cfg : Cfg} {env : Env} {f : Nat} {σ : List (Str × RTy)} (hσ : Renaming cfg env σ) (it : Item) (body : Ts)
    (hta : it.attr.typeAs = none) (hto : it.attr.typeOverride = none)
    (hv : ∀ v ∈ it.variants, v.attr.typeAs = none ∧ v.attr.typeOverride = none)
    (hp : ∀ fld ∈ it.fields, PlainField env f fld) (hpv : ∀ v ∈ it.variants, ∀ fld ∈ v.fields, PlainField env f fld)
    (hb : itemBody cfg env it = some body) (n : Str) :
    n ∈ idents ((bodyDeps it).flatMap (visitDep env f σ)) ↔ n ∈ refNames body := by
  unfold bodyDeps
  rw [itemBody_eq_some] at hb
  cases hen : it.isEnum with
  | true =>
    simp only [hen, if_true, hta, hto] at hb ⊢
    obtain ⟨arms, harms, rfl⟩ := hb
    have harms' : n ∈ refNames (if arms.isEmpty then .never else .union arms) ↔ n ∈ refNamesL arms := by
      cases arms <;> simp [refNames, refNamesL]
    rw [harms', List.flatMap_assoc, refNamesL_eq]
    refine keepM_visit _ _ n (variantsTs_eq .. ▸ harms) fun v hvm => ?_
    obtain ⟨h1, h2⟩ := hv v hvm
    cases hs : v.attr.skip with
    | true => simp
    | false =>
      intro arm harm
      simp only [Bool.false_eq_true, if_false, h1, h2]
      exact variant_visit hσ it v _ arm (hpv v hvm) harm n
  | false =>
    simp only [hen, Bool.false_eq_true, if_false, hta, hto] at hb ⊢
    exact body_visit hσ _ _ _ _ it.shape it.fields body hp hb n

/-- the names of declarations the defaults of the type parameters refer to (what the header `<A, B = D>` mentions) -/
def defaultNames (cfg : Cfg) (env : Env) (it : Item) : List Str :=
  it.generics.flatMap fun g => match g.default with
    | some d => ((tyTs cfg env d).map refNames).getD []
    | none => []

/-- **the header**: the defaults of the parameters -/
theorem defaultDeps_visit {cfg : Cfg} {env : Env} {f : Nat} {σ : List (Str × RTy)} (hσ : Renaming cfg env σ) (it : Item)
    (hconc : it.attr.concrete = [])
    (hdef : ∀ g ∈ it.generics, ∀ d, g.default = some d → tyWF env d = true ∧ depthR d < f ∧ (tyTs cfg env d).isSome) (n : Str) :
    n ∈ idents ((defaultDeps it).flatMap (visitDep env f σ)) ↔ n ∈ defaultNames cfg env it := by
  rw [defaultDeps, defaultNames, List.flatMap_assoc, mem_idents_flatMap, List.mem_flatMap]
  refine exists_congr fun g => and_congr_right fun hg => ?_
  simp only [hconc, List.find?_nil, Option.isSome_none, Bool.false_eq_true, if_false]
  cases hd : g.default with
  | none => simp [idents]
  | some d =>
    obtain ⟨hw, hdep, hT⟩ := hdef g hg d hd
    obtain ⟨D, hD⟩ := Option.isSome_iff_exists.mp hT
    simp only [hD, Option.map_some, Option.getD_some]
    exact push_visit hσ { ty := d, inner := false } D hw hdep hD n

/-- `T::WithoutGenerics` is the item at the renaming of every parameter to `Dummy` -/
theorem Renaming.dummies (cfg : Cfg) (env : Env) (it : Item) (hconc : it.attr.concrete = []) :
    withoutGenerics it = .named it.name (it.generics.map fun _ => RTy.param "Dummy".toList) ∧
    Renaming cfg env (bindArgs it (it.generics.map fun _ => RTy.param "Dummy".toList)) := by
  refine ⟨by simp [withoutGenerics, hconc], it.generics.map (·.name), _, _, ?_, nameTyBL_params _ _ "Dummy".toList it.generics, ?_, ?_⟩
  · simp only [bindArgs, hconc, List.find?_nil, Option.map_none]
    exact zip_map_names it.generics _
  all_goals
    intro p hp
    obtain ⟨_, _, e⟩ := List.mem_map.mp (List.of_mem_zip hp).2
    exact ⟨_, e.symm⟩

/-- a monomorphic item is visited at the empty substitution, and has no header -/
theorem visitDeps_mono (env : Env) (it : Item) (f : Nat) (hfind : env.find it.name = some it) (hg : it.generics = []) (n : Str) :
    n ∈ idents (visitDeps env (f + 1) (.named it.name [])) ↔ n ∈ idents ((bodyDeps it).flatMap (visitDep env f [])) := by
  have hσ : bindArgs it [] = [] := by simp [bindArgs]
  have hd : defaultDeps it = [] := by simp [defaultDeps, hg]
  rw [visitDeps_named env f it.name [] it hfind, idents_dedup, hσ, itemDeps_split, hd, List.append_nil]

theorem struct_named_visit (cfg : Cfg) (env : Env) (it : Item) (f : Nat) (body : Ts)
    (hfind : env.find it.name = some it) (hs : it.isEnum = false) (hg : it.generics = []) (hsh : it.shape = .named)
    (hta : it.attr.typeAs = none) (hto : it.attr.typeOverride = none)
    (hp : ∀ fld ∈ it.fields, PlainField env f fld) (hb : itemBody cfg env it = some body) :
    ∀ n, n ∈ idents (visitDeps env (f + 1) (.named it.name [])) ↔ n ∈ refNames body := by
  intro n
  rw [visitDeps_mono env it f hfind hg]
  simp only [itemBody_eq_some, hs, Bool.false_eq_true, if_false] at hb
  simp only [bodyDeps, hs, Bool.false_eq_true, if_false, hta, hto]
  exact body_visit (Renaming.nil cfg env) _ _ _ _ it.shape it.fields body hp hb n

end TsRs
